import NotationCore.Proofs.Jws
import NotationCore.Model.Cose
import NotationCore.Props.C03
/-! what the base wrapper, the key/algorithm tables and the COSE read model do, each function as
    an equivalence proved once; at the end the COSE `Verify` under the wrapper as a whole, against
    its specification `CoseConforms` (`cose_verify_iff`) -/
namespace NotationCore.Proofs.Envelope
open Base Algorithm

theorem wrapRead_eq_val_iff (rawEmpty : Bool) (ci : ChainInfo) (inner : Out Content) (c : Content) :
    wrapRead rawEmpty ci inner = .val c ↔
      rawEmpty = false ∧ inner = .val c ∧ validateEnvelopeContent ci c = true := by
  cases rawEmpty <;> cases inner <;> simp [wrapRead]
  constructor
  · intro h; split at h <;> simp_all
  · rintro ⟨rfl, h⟩; simp [h]

theorem wrapRead_mono {ci : ChainInfo} {o o' : Out Content} {c : Content} (h : o = .val c → o' = .val c)
    (hv : wrapRead false ci o = .val c) : wrapRead false ci o' = .val c :=
  (wrapRead_eq_val_iff ..).mpr (((wrapRead_eq_val_iff ..).mp hv).imp_right (.imp_left h))

theorem validateEnvelopeContent_iff (ci : ChainInfo) (c : Content) :
    validateEnvelopeContent ci c = true ↔
      c.payloadLen ≠ 0 ∧ c.sigLen ≠ 0 ∧ c.alg ≠ 0 ∧ validateSigningAndExpiryTime c.signingTime c.expiry = true ∧
      c.scheme ≠ "" ∧ validateCertificateChain ci none c.alg = true := by
  simp only [validateEnvelopeContent, Bool.and_eq_true, bne_iff_ne, ne_eq, and_assoc]

theorem validateSigningAndExpiryTime_iff (st ex : Time) :
    validateSigningAndExpiryTime st ex = true ↔ st ≠ zeroT ∧ (ex = zeroT ∨ st < ex) := by
  simp only [validateSigningAndExpiryTime, isZeroT, Bool.and_eq_true, Bool.not_eq_eq_eq_not, Bool.not_true,
    beq_eq_false_iff_ne, ne_eq, Bool.and_eq_false_imp, Bool.or_eq_false_iff, decide_eq_false_iff_not]
  omega

theorem validateCertificateChain_iff (ci : ChainInfo) (st : Option Time) (alg : Nat) :
    validateCertificateChain ci st alg = true ↔
      ∃ leaf rest, ci.certs = leaf :: rest ∧
        Spec.Conforms .codeSigning ci.sigF ci.sigSelfF ci.certs st ∧ keyAlg leaf.key = some alg := by
  simp only [validateCertificateChain, Bool.and_eq_true, Props.accepted_codeSigning]
  cases ci.certs with
  | nil => simp
  | cons leaf rest => cases h : keyAlg leaf.key <;> simp [h]

/-- (key, `signature.Algorithm`, JWS name, COSE id, crypto.Hash id: SHA-256 = 5, SHA-384 = 6, SHA-512 = 7) -/
def table : List (Key × Nat × String × Int × Nat) :=
  [(.rsa 2048, 1, "PS256", -37, 5), (.rsa 3072, 2, "PS384", -38, 6), (.rsa 4096, 3, "PS512", -39, 7),
   (.ec 256, 4, "ES256", -7, 5), (.ec 384, 5, "ES384", -35, 6), (.ec 521, 6, "ES512", -36, 7)]

/-- every approved key has its row, and the model's tables (regenerated from the Go switches)
    give exactly that row's algorithm and COSE id -/
theorem approved_rows : ∀ k ∈ Spec.approvedKeys, ∃ row ∈ table, row.1 = k ∧ keyAlg k = some row.2.1 ∧
    Cose.keyCoseAlg k = some row.2.2.2.1 := by decide

theorem key_row {k : Key} {ks : KeySpec} (hk : extractKeySpec k = some ks) :
    ∃ row ∈ table, row.1 = k ∧ keyAlg k = some row.2.1 ∧ Cose.keyCoseAlg k = some row.2.2.2.1 :=
  approved_rows k ((Proofs.Chain.extractKeySpec_isSome k).mp (by rw [hk]; rfl))

theorem keyAlg_table (k : Key) (a : Nat) (h : keyAlg k = some a) :
    ∃ row ∈ table, row.1 = k ∧ row.2.1 = a := by
  obtain ⟨ks, hks, -⟩ := Option.map_eq_some_iff.mp h
  obtain ⟨row, hr, h1, h2, -⟩ := key_row hks
  exact ⟨row, hr, h1, Option.some.inj (h2.symm.trans h)⟩

theorem keyCoseAlg_table (k : Key) (i : Int) (h : Cose.keyCoseAlg k = some i) :
    ∃ row ∈ table, row.1 = k ∧ row.2.2.2.1 = i := by
  obtain ⟨ks, hks, -⟩ := Option.bind_eq_some_iff.mp h
  obtain ⟨row, hr, h1, -, h3⟩ := key_row hks
  exact ⟨row, hr, h1, Option.some.inj (h3.symm.trans h)⟩

theorem lookup_mem {α β} [BEq α] [LawfulBEq α] {l : List (α × β)} {k : α} {v : β} (h : l.lookup k = some v) : (k, v) ∈ l := by
  obtain ⟨l₁, l₂, rfl, _⟩ := List.lookup_eq_some_iff.mp h
  simp

theorem jwsAlgOfName_table (n : String) (a : Nat) (h : jwsAlgOfName n = some a) :
    ∃ row ∈ table, row.2.1 = a ∧ row.2.2.1 = n := by
  have hall : ∀ p ∈ Generated.jwsAlgMap, ∃ row ∈ table, row.2.1 = p.1 ∧ row.2.2.1 = p.2 := by decide
  obtain ⟨p, hp, rfl⟩ := Option.map_eq_some_iff.mp h
  obtain ⟨row, hr, h1, h2⟩ := hall p (List.mem_of_find?_eq_some hp)
  exact ⟨row, hr, h1, h2.trans (by simpa using List.find?_some hp)⟩

theorem coseAlgToAlg_table (i : Int) (a : Nat) (h : coseAlgToAlg i = some a) :
    ∃ row ∈ table, row.2.1 = a ∧ row.2.2.2.1 = i := by
  have hall : ∀ p ∈ Generated.coseAlgMap, ∃ row ∈ table, row.2.1 = p.2 ∧ row.2.2.2.1 = p.1 := by decide
  exact hall (i, a) (lookup_mem h)

theorem table_inj : ∀ r ∈ table, ∀ r' ∈ table,
    r.1 = r'.1 ∨ r.2.1 = r'.2.1 ∨ r.2.2.1 = r'.2.2.1 ∨ r.2.2.2.1 = r'.2.2.2.1 → r = r' := by decide

theorem table_key_inj : ∀ r ∈ table, ∀ r' ∈ table, r.1 = r'.1 → r = r' :=
  fun r hr r' hr' h => table_inj r hr r' hr' (.inl h)
theorem table_alg_inj : ∀ r ∈ table, ∀ r' ∈ table, r.2.1 = r'.2.1 → r = r' :=
  fun r hr r' hr' h => table_inj r hr r' hr' (.inr (.inl h))
theorem table_name_inj : ∀ r ∈ table, ∀ r' ∈ table, r.2.2.1 = r'.2.2.1 → r = r' :=
  fun r hr r' hr' h => table_inj r hr r' hr' (.inr (.inr (.inl h)))
theorem table_cose_inj : ∀ r ∈ table, ∀ r' ∈ table, r.2.2.2.1 = r'.2.2.2.1 → r = r' :=
  fun r hr r' hr' h => table_inj r hr r' hr' (.inr (.inr (.inr h)))

theorem table_codes : ∀ row ∈ table, jwsAlgName row.2.1 = some row.2.2.1 ∧ jwsAlgOfName row.2.2.1 = some row.2.1 ∧
    Generated.validMethods.contains row.2.2.1 = true ∧ coseAlgToAlg row.2.2.2.1 = some row.2.1 := by decide

theorem table_keys : ∀ row ∈ table, keyAlg row.1 = some row.2.1 ∧ Cose.keyCoseAlg row.1 = some row.2.2.2.1 ∧
    row.2.1 ≠ 0 := by decide

theorem keySpec_row (ks : KeySpec) (h : signatureAlgorithm ks ≠ 0) :
    ∃ row ∈ table, extractKeySpec row.1 = some ks ∧ signatureAlgorithm ks = row.2.1 ∧
      coseAlgOfKeySpec ks = some row.2.2.2.1 := by
  have hall : ∀ q ∈ Generated.sigAlgTable, ∃ row ∈ table, extractKeySpec row.1 = some ⟨q.1.1, q.1.2⟩ ∧ q.2 = row.2.1 ∧
      coseAlgOfKeySpec ⟨q.1.1, q.1.2⟩ = some row.2.2.2.1 := by decide
  cases hl : Generated.sigAlgTable.lookup (ks.type, ks.size) with
  | none => simp [signatureAlgorithm, hl] at h
  | some a =>
    rw [show signatureAlgorithm ks = a by simp [signatureAlgorithm, hl]]
    exact hall _ (lookup_mem hl)

section
open Cose

theorem ctyOf_eq_some {e : Env} {s : String} : ctyOf e = some s ↔ get e.prot lCty = some (.text s) := by
  unfold ctyOf
  split <;> simp_all

theorem schemeOf_eq_some {e : Env} {s : String} : schemeOf e = some s ↔ get e.prot lScheme = some (.text s) := by
  unfold schemeOf
  split <;> simp_all

theorem headerAlg_eq_some {e : Env} {a : Int} : headerAlg e = some a ↔ get e.prot lAlg = some (.int a) := by
  unfold headerAlg
  split <;> simp_all

/-- only the tag-1 (epoch) encoding of a time is accepted -/
theorem parseTime_eq_some {es : List Entry} {l : Label} {t : Time} :
    parseTime es l = some t ↔ get es l = some (.time t 1) := by
  unfold parseTime
  split <;> simp_all [and_comm]

theorem timeLabelOf_eq_some {s : String} {l : Label} : timeLabelOf s = some l ↔
    (s = schemeX509 ∧ l = lSigningTime) ∨ (s = schemeAuthority ∧ l = lAuthSigningTime) := by
  by_cases h1 : s = schemeX509
  · subst h1
    simp [Jws.schemeAuthority_ne_x509.symm, show timeLabelOf schemeX509 = some lSigningTime from rfl, eq_comm]
  · by_cases h2 : s = schemeAuthority
    · subst h2
      simp [Jws.schemeAuthority_ne_x509, show timeLabelOf schemeAuthority = some lAuthSigningTime from rfl, eq_comm]
    · have : timeLabelOf s = none := by
        simp only [timeLabelOf, Generated.coseSchemeTimeLabel, List.lookup]
        rw [show (s == "notary.x509") = false from beq_false_of_ne h1,
          show (s == "notary.x509.signingAuthority") = false from beq_false_of_ne h2]
        rfl
      simp [this, h1, h2]

theorem signingTimeOf_eq_some {e : Env} {scheme : String} {st : Time} : signingTimeOf e scheme = some st ↔
    (scheme = schemeX509 ∧ get e.prot lSigningTime = some (.time st 1)) ∨
    (scheme = schemeAuthority ∧ get e.prot lAuthSigningTime = some (.time st 1)) := by
  simp [signingTimeOf, Option.bind_eq_some_iff, timeLabelOf_eq_some, parseTime_eq_some, or_and_right, exists_or, and_assoc]

theorem expiryOf_eq_some {e : Env} {ex : Time} : expiryOf e = some ex ↔
    (get e.prot lExpiry = none ∧ ex = zeroT) ∨ get e.prot lExpiry = some (.time ex 1) := by
  unfold expiryOf
  cases h : get e.prot lExpiry with
  | none => simp [eq_comm]
  | some v => simp [parseTime_eq_some, h]

theorem critOK_iff {e : Env} {scheme : String} : critOK e scheme = true ↔
    lScheme ∈ critLabels e.prot ∧ (scheme = schemeAuthority → lAuthSigningTime ∈ critLabels e.prot) ∧
    ((get e.prot lExpiry).isSome = true → lExpiry ∈ critLabels e.prot) := by
  unfold critOK mustCrit
  by_cases h1 : scheme = schemeAuthority <;> by_cases h2 : (get e.prot lExpiry).isSome = true <;> simp [h1, h2]

theorem certsOK_cons {e : Env} {x : X5Elem} {rest : List X5Elem} (hx : e.x5c = some (x :: rest)) :
    certsOK e = true ↔ goodCert x = true ∧ ∀ y ∈ rest, goodCert y = true := by
  simp [certsOK, hx]

theorem coseVerify_iff {e : Env} {ka : Int} : coseVerify e ka = true ↔
    e.payloadNil = false ∧ e.sigLen ≠ 0 ∧ headerAlg e = some ka ∧ e.sigok = true := by
  simp [coseVerify, and_assoc]

/-- `Cose.content e` succeeds with these values of the signed headers -/
structure CoseReads (e : Env) (cty scheme : String) (alg : Nat) (st expiry : Time) : Prop where
  ctyHdr : ctyOf e = some cty
  schemeHdr : schemeOf e = some scheme
  sigLen : e.sigLen ≠ 0
  crit : critOK e scheme = true
  algHdr : algOf e = some alg
  timeHdr : signingTimeOf e scheme = some st
  expiryHdr : expiryOf e = some expiry
  certs : certsOK e = true

theorem CoseReads.unique {e e' : Env} {cty cty' scheme scheme' alg alg' st st' ex ex'}
    (r : CoseReads e cty scheme alg st ex) (r' : CoseReads e' cty' scheme' alg' st' ex') (hp : e.prot = e'.prot) :
    cty = cty' ∧ scheme = scheme' ∧ alg = alg' ∧ st = st' ∧ ex = ex' := by
  -- every typed read looks at `prot` only
  obtain ⟨p, _⟩ := e
  obtain ⟨p', _⟩ := e'
  cases hp
  obtain rfl := Option.some.inj (r.schemeHdr.symm.trans r'.schemeHdr)
  exact ⟨Option.some.inj (r.ctyHdr.symm.trans r'.ctyHdr), rfl, Option.some.inj (r.algHdr.symm.trans r'.algHdr),
    Option.some.inj (r.timeHdr.symm.trans r'.timeHdr), Option.some.inj (r.expiryHdr.symm.trans r'.expiryHdr)⟩

theorem cose_content_eq_val_iff (e : Env) (c : Content) : Cose.content e = .val c ↔
    ∃ cty scheme alg st expiry, CoseReads e cty scheme alg st expiry ∧ c = contentOf e cty scheme alg st expiry := by
  constructor
  · intro hv
    unfold Cose.content at hv
    split at hv
    · simp only [guard_passed, ne_eq, reduceCtorEq, not_false_eq_true, Bool.or_eq_false_iff, beq_eq_false_iff_ne,
        Bool.not_eq_false'] at hv
      obtain ⟨⟨h1, h2⟩, hv⟩ := hv
      split at hv
      · simp only [guard_passed, ne_eq, reduceCtorEq, not_false_eq_true, Bool.not_eq_false', Outcome.val.injEq] at hv
        exact ⟨_, _, _, _, _, ⟨‹_›, ‹_›, h1, h2, ‹_›, ‹_›, ‹_›, hv.1⟩, hv.2.symm⟩
      · cases hv
    · cases hv
  · rintro ⟨cty, scheme, alg, st, expiry, r, rfl⟩
    simp [Cose.content, r.ctyHdr, r.schemeHdr, r.sigLen, r.crit, r.algHdr, r.timeHdr, r.expiryHdr, r.certs]

theorem cose_verify_eq_val_iff (e : Env) (c : Content) : Cose.verify e = .val c ↔
    (∃ id rest, e.x5c = some (.bytes (some id) :: rest)) ∧
    ∃ ka, keyCoseAlg e.leafKey = some ka ∧ coseVerify e ka = true ∧ Cose.content e = .val c := by
  unfold Cose.verify
  split
  next id rest hx =>
    split
    next hk => simp [hk]
    next ka hk => cases hc : coseVerify e ka <;> simp [hx, hk, hc]
  next hx => exact ⟨nofun, fun ⟨⟨id, rest, h⟩, _⟩ => (hx id rest h).elim⟩

end
end NotationCore.Proofs.Envelope

namespace NotationCore.Props
open Base Algorithm Proofs.Envelope

/-- the envelope specification for a COSE_Sign1 envelope with a valid signature -/
structure CoseConforms (e : Cose.Env) (ci : ChainInfo) (cty scheme : String) (st ex : Time)
    (row : Key × Nat × String × Int × Nat) : Prop where
  contentType : Cose.get e.prot Cose.lCty = some (.text cty)
  schemeHdr : Cose.get e.prot Cose.lScheme = some (.text scheme)
  /-- one of the two schemes, with the signing time in the header that belongs to it, tag 1 -/
  time : (scheme = schemeX509 ∧ Cose.get e.prot Cose.lSigningTime = some (.time st 1)) ∨
         (scheme = schemeAuthority ∧ Cose.get e.prot Cose.lAuthSigningTime = some (.time st 1))
  signingTime : st ≠ zeroT
  expiry : (Cose.get e.prot Cose.lExpiry = none ∧ ex = zeroT) ∨
           (Cose.get e.prot Cose.lExpiry = some (.time ex 1) ∧ (ex = zeroT ∨ st < ex))
  critScheme : Cose.lScheme ∈ Cose.critLabels e.prot
  critAuth : scheme = schemeAuthority → Cose.lAuthSigningTime ∈ Cose.critLabels e.prot
  critExpiry : (Cose.get e.prot Cose.lExpiry).isSome = true → Cose.lExpiry ∈ Cose.critLabels e.prot
  keyRow : row ∈ table ∧ row.1 = e.leafKey
  alg : Cose.get e.prot Cose.lAlg = some (.int row.2.2.2.1)
  payload : e.payloadNil = false ∧ e.payloadLen ≠ 0
  signature : e.sigLen ≠ 0 ∧ e.sigok = true
  certs : ∃ id rest, e.x5c = some (.bytes (some id) :: rest) ∧ ∀ x ∈ rest, Cose.goodCert x = true
  chain : Spec.Conforms .codeSigning ci.sigF ci.sigSelfF ci.certs none
  leaf : ∃ leaf rest, ci.certs = leaf :: rest ∧ leaf.key = e.leafKey

/-- `Verify` under the base wrapper accepts exactly the envelopes that meet the specification, and returns the decoding of
    the signed header.  `LeafConsistent` is not assumed: that the validated chain's leaf key is, in type and size, the key
    the signature was checked with (`leaf`) follows from acceptance. -/
theorem cose_verify_iff (e : Cose.Env) (ci : ChainInfo) (c : Content) :
    wrapRead false ci (Cose.verify e) = .val c ↔
      ∃ cty scheme st ex row, CoseConforms e ci cty scheme st ex row ∧ c = Cose.contentOf e cty scheme row.2.1 st ex := by
  rw [wrapRead_eq_val_iff, cose_verify_eq_val_iff, validateEnvelopeContent_iff, validateSigningAndExpiryTime_iff,
    validateCertificateChain_iff]
  constructor
  · rintro ⟨-, ⟨⟨id, rest, hx⟩, ka, hka, hcv, hcontent⟩, b1, -, -, ⟨b3, b4⟩, -, leaf, lrest, hcs, b5, hk⟩
    obtain ⟨hp, hsl, hh, hs⟩ := coseVerify_iff.mp hcv
    obtain ⟨cty, scheme, alg, st, ex, r, rfl⟩ := (cose_content_eq_val_iff e c).mp hcontent
    obtain ⟨k1, k2, k3⟩ := critOK_iff.mp r.crit
    -- the row of the key the signature was checked with, the row of the declared id and the row of the chain's leaf
    -- key agree in the id, respectively in the algorithm: they are one row
    have halg : coseAlgToAlg ka = some alg := by have := r.algHdr; rwa [Cose.algOf, hh] at this
    obtain ⟨row, hrow, hr1, rfl⟩ := keyCoseAlg_table e.leafKey ka hka
    obtain ⟨row', hrow', rfl, h2'⟩ := coseAlgToAlg_table _ alg halg
    obtain rfl := table_cose_inj row hrow row' hrow' h2'.symm
    obtain ⟨row', hrow', h1', h2'⟩ := keyAlg_table leaf.key _ hk
    obtain rfl := table_alg_inj row hrow row' hrow' h2'.symm
    exact ⟨cty, scheme, st, ex, row, ⟨ctyOf_eq_some.mp r.ctyHdr, schemeOf_eq_some.mp r.schemeHdr,
      signingTimeOf_eq_some.mp r.timeHdr, b3, (expiryOf_eq_some.mp r.expiryHdr).imp_right (⟨·, b4⟩), k1, k2, k3, ⟨hrow, hr1⟩,
      headerAlg_eq_some.mp hh, ⟨hp, b1⟩, ⟨hsl, hs⟩, ⟨id, rest, hx, ((certsOK_cons hx).mp r.certs).2⟩, b5,
      leaf, lrest, hcs, h1'.symm.trans hr1⟩, rfl⟩
  · rintro ⟨cty, scheme, st, ex, row, S, rfl⟩
    obtain ⟨hrow, hkey⟩ := S.keyRow
    obtain ⟨_, _, _, t1⟩ := table_codes row hrow
    obtain ⟨t3, t2, t4⟩ := table_keys row hrow
    obtain ⟨id, rest, hx, hgood⟩ := S.certs
    obtain ⟨leaf, lrest, hcs, hlk⟩ := S.leaf
    have hha : Cose.headerAlg e = some row.2.2.2.1 := headerAlg_eq_some.mpr S.alg
    have r : CoseReads e cty scheme row.2.1 st ex :=
      ⟨ctyOf_eq_some.mpr S.contentType, schemeOf_eq_some.mpr S.schemeHdr, S.signature.1,
       critOK_iff.mpr ⟨S.critScheme, S.critAuth, S.critExpiry⟩, by rw [Cose.algOf, hha]; exact t1,
       signingTimeOf_eq_some.mpr S.time, expiryOf_eq_some.mpr (S.expiry.imp_right (·.1)), (certsOK_cons hx).mpr ⟨rfl, hgood⟩⟩
    have hne : scheme ≠ "" := by
      rcases S.time with ⟨a, _⟩ | ⟨a, _⟩ <;> (rw [a]; decide)
    exact ⟨rfl, ⟨⟨id, rest, hx⟩, _, hkey ▸ t2, coseVerify_iff.mpr ⟨S.payload.1, S.signature.1, hha, S.signature.2⟩,
        (cose_content_eq_val_iff ..).mpr ⟨_, _, _, _, _, r, rfl⟩⟩,
      S.payload.2, S.signature.1, t4, ⟨S.signingTime, S.expiry.elim (fun h => .inl h.2) (·.2)⟩, hne,
      leaf, lrest, hcs, S.chain, by rw [hlk, ← hkey]; exact t3⟩
end NotationCore.Props
