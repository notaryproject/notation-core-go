import NotationCore.Model.Jws
/-! what each function of the JWS read model does, as an equivalence proved once; the property
    theorems use these in place of unfolding the model (the exception: that the unsigned parts are copied
    untouched, `Props/C01.lean`, is shown by running both sides) -/
namespace NotationCore.Proofs

/-- a chain of guards `if b then fail else …` ends in a value other than `fail` only if `b` is false -/
theorem guard_passed {α : Type} {b : Bool} {x y z : α} (h : x ≠ z) :
    (if b = true then x else y) = z ↔ b = false ∧ y = z := by
  cases b <;> simp [h]

end NotationCore.Proofs

namespace NotationCore.Proofs.Jws
open NotationCore Jws

theorem ite_map_eq_some {α β : Type} {c : Prop} [Decidable c] {o : Option α} {f : α → β} {e : Option β} {b : β} :
    (if c then o.map f else e) = some b ↔ (c ∧ ∃ a, o = some a ∧ f a = b) ∨ (¬ c ∧ e = some b) := by
  by_cases h : c <;> simp [h]

theorem step_frame {h h' : Hdr} {m : Member} (hs : step h m = some h') :
    (m.key ≠ kAlg → h'.alg = h.alg) ∧ (m.key ≠ kCty → h'.cty = h.cty) ∧ (m.key ≠ kScheme → h'.scheme = h.scheme) ∧
    (m.key ≠ kCrit → h'.crit = h.crit) ∧ (m.key ≠ kExpiry → h'.expiry = h.expiry) ∧
    (m.key ≠ kSigningTime → h'.signingTime = h.signingTime) ∧
    (m.key ≠ kAuthSigningTime → h'.authSigningTime = h.authSigningTime) := by
  simp only [step, ite_map_eq_some, beq_iff_eq, Option.some.injEq] at hs
  -- in each case `h'` is `h` with at most the field of the key `k` replaced
  rcases hs with ⟨k, s, _, rfl⟩ | ⟨_, ⟨k, s, _, rfl⟩ | ⟨_, ⟨k, s, _, rfl⟩ | ⟨_, ⟨k, s, _, rfl⟩ | ⟨_, ⟨k, s, _, rfl⟩ |
    ⟨_, ⟨k, s, _, rfl⟩ | ⟨_, ⟨k, s, _, rfl⟩ | ⟨_, rfl⟩⟩⟩⟩⟩⟩⟩ <;> simp [*]

theorem step_alg_str (h h' : Hdr) (m : Member) (hk : (m.key == kAlg) = true) (s : String) (t : Option Time)
    (hv : m.val = .str s t) (hs : step h m = some h') : h'.alg = s := by
  unfold step at hs
  simp only [hk, if_true, hv, setString, Option.map_some, Option.some.injEq] at hs
  rw [← hs]

theorem decodeHdr_cons_eq_some {m : Member} {ms : List Member} {h0 h : Hdr} :
    decodeHdr (m :: ms) h0 = some h ↔ ∃ h1, step h0 m = some h1 ∧ decodeHdr ms h1 = some h := by
  simp [decodeHdr, Option.bind_eq_some_iff]

theorem decodeHdr_append (a b : List Member) (h : Hdr) :
    decodeHdr (a ++ b) h = (decodeHdr a h).bind (decodeHdr b) := by
  induction a generalizing h with
  | nil => rfl
  | cons m ms ih =>
    simp only [List.cons_append, decodeHdr]
    cases step h m with
    | none => rfl
    | some h' => exact ih h'

theorem decodeHdr_frame {α : Type} (f : Hdr → α) (k : String)
    (hstep : ∀ {h h' : Hdr} {m : Member}, step h m = some h' → m.key ≠ k → f h' = f h)
    {ms : List Member} {h0 h : Hdr} (hd : decodeHdr ms h0 = some h) (hk : k ∉ ms.map (·.key)) : f h = f h0 := by
  induction ms generalizing h0 with
  | nil => cases hd; rfl
  | cons m ms ih =>
    obtain ⟨h1, hs, hd⟩ := decodeHdr_cons_eq_some.mp hd
    rw [List.map_cons, List.mem_cons, not_or] at hk
    exact (ih hd hk.2).trans (hstep hs (Ne.symm hk.1))

def LastOfKey (l : List Member) (m : Member) : Prop :=
  ∃ pre post, l = pre ++ m :: post ∧ ∀ r ∈ post, r.key ≠ m.key

theorem LastOfKey.mem {l : List Member} {m : Member} : LastOfKey l m → m ∈ l
  | ⟨_, _, h, _⟩ => h ▸ List.mem_append_right _ List.mem_cons_self

theorem lastOfKey_cons {x : Member} {xs : List Member} {m : Member} :
    LastOfKey (x :: xs) m ↔ (m = x ∧ ∀ r ∈ xs, r.key ≠ x.key) ∨ LastOfKey xs m := by
  constructor
  · rintro ⟨pre, post, h1, h2⟩
    rcases List.cons_eq_append_iff.mp h1 with ⟨rfl, h3⟩ | ⟨pre', rfl, h3⟩
    · cases h3; exact .inl ⟨rfl, h2⟩
    · exact .inr ⟨pre', post, h3, h2⟩
  · rintro (⟨rfl, h2⟩ | ⟨pre, post, rfl, h2⟩)
    · exact ⟨[], xs, rfl, h2⟩
    · exact ⟨x :: pre, post, rfl, h2⟩

theorem exists_lastOfKey {k : String} : ∀ {l : List Member}, (∃ r ∈ l, r.key = k) → ∃ m, LastOfKey l m ∧ m.key = k
  | [], ⟨_, hr, _⟩ => nomatch hr
  | x :: xs, ⟨r, hr, hk⟩ => by
    by_cases hin : ∃ r ∈ xs, r.key = k
    · obtain ⟨m, hl, hm⟩ := exists_lastOfKey hin
      exact ⟨m, lastOfKey_cons.mpr (.inr hl), hm⟩
    · have hxk : x.key = k := by
        rcases List.mem_cons.mp hr with rfl | h'
        · exact hk
        · exact absurd ⟨r, h', hk⟩ hin
      exact ⟨x, lastOfKey_cons.mpr (.inl ⟨rfl, fun r' hr' hk' => hin ⟨r', hr', hk'.trans hxk⟩⟩), hxk⟩

theorem lastOfKey_filter (p : String → Bool) {l : List Member} {m : Member} :
    LastOfKey (l.filter fun r => p r.key) m ↔ p m.key = true ∧ LastOfKey l m := by
  constructor
  · rintro ⟨pre, post, h1, h2⟩
    obtain ⟨l₁, l₂, rfl, rfl, h3⟩ := List.filter_eq_append_iff.mp h1
    obtain ⟨a₁, a₂, rfl, -, hp, rfl⟩ := List.filter_eq_cons_iff.mp h3
    exact ⟨hp, l₁ ++ a₁, a₂, (List.append_assoc ..).symm,
      fun r hr hk => h2 r (List.mem_filter.mpr ⟨hr, by rw [hk]; exact hp⟩) hk⟩
  · rintro ⟨hp, pre, post, rfl, h2⟩
    exact ⟨pre.filter fun r => p r.key, post.filter fun r => p r.key, by simp [hp],
      fun r hr => h2 r (List.mem_filter.mp hr).1⟩

/-- the algorithm golang-jwt verifies with (exact `alg`, last member, a string) is the algorithm
    name the struct decode ends up with -/
theorem decodeHdr_alg (ms : List Member) (h0 h : Hdr) (a : String)
    (hd : decodeHdr ms h0 = some h) (hj : jwtAlg ms = some a) : h.alg = a := by
  unfold jwtAlg at hj
  split at hj
  next m hl =>
    -- `ms = pre ++ m :: post` with `m` the last member named `alg`
    obtain ⟨l', hl⟩ := List.getLast?_eq_some_iff.mp hl
    obtain ⟨hk, pre, post, rfl, hpost⟩ := (lastOfKey_filter (· == kAlg)).mp ⟨l', [], hl, fun _ h => nomatch h⟩
    rw [decodeHdr_append] at hd
    obtain ⟨h1, -, hd⟩ := Option.bind_eq_some_iff.mp hd
    obtain ⟨h2, hs, hd⟩ := decodeHdr_cons_eq_some.mp hd
    split at hj
    next s t hv =>
      cases hj
      -- the members after `m` leave `alg` as `m` set it
      have hno : kAlg ∉ post.map (·.key) := fun hm => by
        obtain ⟨r, hr, hrk⟩ := List.mem_map.mp hm
        exact hpost r hr (hrk.trans (beq_iff_eq.mp hk).symm)
      rw [decodeHdr_frame (·.alg) kAlg (fun hs => (step_frame hs).1) hd hno]
      exact step_alg_str h1 h2 m hk _ t hv hs
    · cases hj
  · cases hj

theorem decodeHdr_provenance (ms : List Member) (h0 h : Hdr) (hd : decodeHdr ms h0 = some h) :
    (h.scheme ≠ h0.scheme → kScheme ∈ ms.map (·.key)) ∧
    (h.expiry ≠ h0.expiry → kExpiry ∈ ms.map (·.key)) ∧
    (h.authSigningTime ≠ h0.authSigningTime → kAuthSigningTime ∈ ms.map (·.key)) ∧
    (h.signingTime ≠ h0.signingTime → kSigningTime ∈ ms.map (·.key)) := by
  exact ⟨Decidable.not_imp_comm.mp (decodeHdr_frame (·.scheme) kScheme (fun hs => (step_frame hs).2.2.1) hd),
    Decidable.not_imp_comm.mp (decodeHdr_frame (·.expiry) kExpiry (fun hs => (step_frame hs).2.2.2.2.1) hd),
    Decidable.not_imp_comm.mp (decodeHdr_frame (·.authSigningTime) kAuthSigningTime (fun hs => (step_frame hs).2.2.2.2.2.2) hd),
    Decidable.not_imp_comm.mp (decodeHdr_frame (·.signingTime) kSigningTime (fun hs => (step_frame hs).2.2.2.2.2.1) hd)⟩

end NotationCore.Proofs.Jws

namespace NotationCore.Props
open Proofs.Jws

/-- `go` keeps, for every key, exactly its last member -/
theorem extMembers_go_spec (l : List Jws.Member) :
    ((Jws.extMembers.go l).map (·.key)).Nodup ∧
    (∀ m, m ∈ Jws.extMembers.go l ↔ ∃ pre post, l = pre ++ m :: post ∧ ∀ r ∈ post, r.key ≠ m.key) := by
  induction l with
  | nil => simp [Jws.extMembers.go]
  | cons x xs ih =>
    obtain ⟨ih1, ih2⟩ := ih
    have ih2' : ∀ m, m ∈ Jws.extMembers.go xs ↔ LastOfKey xs m := ih2
    show _ ∧ ∀ m, _ ↔ LastOfKey (x :: xs) m
    simp only [lastOfKey_cons, Jws.extMembers.go]
    by_cases hx : ∃ r ∈ xs, r.key = x.key
    · -- a later member has `x`'s name: `x` is dropped, and is not the last of its name
      rw [if_pos (by simpa using hx)]
      refine ⟨ih1, fun m => (ih2' m).trans ⟨.inr, fun h => h.resolve_left fun h' => ?_⟩⟩
      obtain ⟨r, hr, hk⟩ := hx
      exact h'.2 r hr hk
    · -- no later member has `x`'s name: `x` is kept, and its name is new among the names kept
      have hnone : ∀ r ∈ xs, r.key ≠ x.key := fun r hr hk => hx ⟨r, hr, hk⟩
      rw [if_neg (by simpa using hx), List.map_cons, List.nodup_cons]
      refine ⟨⟨fun hmem => ?_, ih1⟩, fun m => by rw [List.mem_cons, ih2', and_iff_left hnone]⟩
      obtain ⟨m, hm, hk⟩ := List.mem_map.mp hmem
      exact hnone m ((ih2' m).mp hm).mem hk

end NotationCore.Props

namespace NotationCore.Proofs.Jws
open NotationCore Base Algorithm Jws

theorem mem_extMembers (ms : List Member) (m : Member) :
    m ∈ extMembers ms ↔ m.key ∉ Generated.jwsHeaderKeys ∧ LastOfKey ms m :=
  (((Props.extMembers_go_spec _).2 m).trans (lastOfKey_filter fun k => !Generated.jwsHeaderKeys.contains k)).trans
    (and_congr_left' (by simp))

theorem mem_extMembers_keys (ms : List Member) (k : String) :
    k ∈ (extMembers ms).map (·.key) ↔ k ∉ Generated.jwsHeaderKeys ∧ k ∈ ms.map (·.key) := by
  simp only [List.mem_map, mem_extMembers]
  constructor
  · rintro ⟨m, ⟨h1, h2⟩, rfl⟩
    exact ⟨h1, m, h2.mem, rfl⟩
  · rintro ⟨h1, m, hm, rfl⟩
    obtain ⟨m', hl, hk⟩ := exists_lastOfKey ⟨m, hm, rfl⟩
    exact ⟨m', ⟨hk ▸ h1, hl⟩, hk⟩

theorem schemeAuthority_ne_x509 : schemeAuthority ≠ schemeX509 := by
  simp [schemeAuthority, schemeX509, Generated.schemeSigningAuthority, Generated.schemeX509]

theorem schemeOK_iff (h : Hdr) : schemeOK h = true ↔
    (h.scheme = schemeX509 ∧ h.authSigningTime = none) ∨
    (h.scheme = schemeAuthority ∧ h.signingTime = none ∧ h.authSigningTime.isSome = true) := by
  unfold schemeOK
  by_cases h1 : h.scheme = schemeX509
  · simp [h1, schemeAuthority_ne_x509.symm]
  · by_cases h2 : h.scheme = schemeAuthority
    · simp [h2, schemeAuthority_ne_x509]
    · simp [h1, h2]

theorem schemeOK_signingTimeOf_iff (h : Hdr) {st : Time} (hst : st ≠ zeroT) :
    schemeOK h = true ∧ signingTimeOf h = st ↔
      (h.scheme = schemeX509 ∧ h.signingTime = some st ∧ h.authSigningTime = none) ∨
      (h.scheme = schemeAuthority ∧ h.authSigningTime = some st ∧ h.signingTime = none) := by
  -- an absent time header reads as `zeroT`, which `st` is not
  have hget : ∀ o : Option Time, o.getD zeroT = st ↔ o = some st := fun o => by cases o <;> simp [hst.symm]
  unfold schemeOK signingTimeOf
  by_cases h1 : h.scheme = schemeX509
  · simp [h1, schemeAuthority_ne_x509.symm, hget, and_comm]
  · by_cases h2 : h.scheme = schemeAuthority
    · simp +contextual [h2, schemeAuthority_ne_x509, hget, and_comm]
    · simp [h1, h2]

theorem mem_mustCrit (h : Hdr) (k : String) : k ∈ mustCrit h ↔
    k = kScheme ∨ (k = kExpiry ∧ ∃ t, h.expiry = some t ∧ t ≠ zeroT) ∨ (k = kAuthSigningTime ∧ h.scheme = schemeAuthority) := by
  unfold mustCrit isZeroT
  cases h.expiry <;> simp [and_comm]

/-! ### members that are not header names, and the `crit` array -/

theorem headerKeys_eq : Generated.jwsHeaderKeys =
    [kAlg, kCrit, kCty, kAuthSigningTime, kExpiry, kScheme, kSigningTime] := rfl

theorem step_nonspec (h : Hdr) (m : Member) (hm : m.key ∉ Generated.jwsHeaderKeys) : step h m = some h := by
  simp only [headerKeys_eq, List.mem_cons, List.not_mem_nil, or_false, not_or] at hm
  simp [step, hm]

theorem decodeHdr_nonspec (ms : List Member) (h : Hdr) (hm : ∀ m ∈ ms, m.key ∉ Generated.jwsHeaderKeys) :
    decodeHdr ms h = some h := by
  induction ms with
  | nil => rfl
  | cons m ms ih =>
    unfold decodeHdr
    rw [step_nonspec h m (hm m (by simp))]
    exact ih (fun x hx => hm x (by simp [hx]))

theorem setCrit_map (l old : List String) : setCrit (.arr (l.map (fun s => some (some s)))) old = some l := by
  unfold setCrit
  induction l with
  | nil => rfl
  | cons x xs ih => simp only [List.map_cons, List.foldr_cons]; simp only [] at ih; rw [ih]

theorem extMembers_go_nodup (l : List Member) (h : (l.map (·.key)).Nodup) : extMembers.go l = l := by
  induction l with
  | nil => rfl
  | cons m rest ih =>
    simp only [List.map_cons, List.nodup_cons, List.mem_map, not_exists, not_and] at h
    unfold extMembers.go
    have : rest.any (fun r => r.key == m.key) = false :=
      List.any_eq_false.mpr (fun x hx => by simpa using h.1 x hx)
    simp only [this, Bool.false_eq_true, if_false]
    rw [ih h.2]

theorem mustCrit_nodup (h : Hdr) : (mustCrit h).Nodup := by
  -- whichever of the two optional names are required, the three names are distinct
  have key : ∀ b₁ b₂ : Bool, ([kScheme] ++ (if b₁ then [kExpiry] else []) ++
      (if b₂ then [kAuthSigningTime] else [])).Nodup := by simp [kScheme, kExpiry, kAuthSigningTime]
  unfold mustCrit
  cases h.expiry with
  | none => exact key false _
  | some t => exact key (!isZeroT t) _

theorem mustCrit_headerKeys (h : Hdr) : ∀ k ∈ mustCrit h, k ∈ Generated.jwsHeaderKeys := by
  intro k hk
  rw [headerKeys_eq]
  rcases (mem_mustCrit h k).mp hk with rfl | ⟨rfl, _⟩ | ⟨rfl, _⟩ <;> simp

theorem gates1_iff (e : Env) (ms : List Member) (h : Hdr) : gates1 e ms h = true ↔
    (∀ m ∈ ms, m.foldTwinOf = none) ∧ e.payloadB64ok = true ∧ schemeOK h = true ∧ critOK h (extMembers ms) = true := by
  simp [gates1, and_assoc]

theorem gates2_iff (e : Env) : gates2 e = true ↔ e.sigB64ok = true ∧ e.sigLen ≠ 0 ∧ ∀ x ∈ e.x5c, x.isSome = true := by
  simp [gates2, and_assoc, Option.isSome_iff_ne_none]

/-- `content e` succeeds with header members `ms`, their decoding `h` and the algorithm `alg` -/
structure Reads (e : Env) (ms : List Member) (h : Hdr) (alg : Nat) : Prop where
  members : membersOf e.prot = some ms
  decodes : decodeHdr ms {} = some h
  gates1 : gates1 e ms h = true
  alg : jwsAlgOfName h.alg = some alg
  gates2 : gates2 e = true

theorem decoded_unique {p : ProtHdr} {ms ms' : List Member} {h h' : Hdr} (a1 : membersOf p = some ms)
    (a2 : decodeHdr ms {} = some h) (b1 : membersOf p = some ms') (b2 : decodeHdr ms' {} = some h') :
    ms = ms' ∧ h = h' := by
  obtain rfl := Option.some.inj (a1.symm.trans b1)
  exact ⟨rfl, Option.some.inj (a2.symm.trans b2)⟩

theorem Reads.unique {e e' : Env} {ms ms' h h' alg alg'} (r : Reads e ms h alg) (r' : Reads e' ms' h' alg')
    (hp : e.prot = e'.prot) : ms = ms' ∧ h = h' ∧ alg = alg' := by
  obtain ⟨rfl, rfl⟩ := decoded_unique r.members r.decodes (hp ▸ r'.members) r'.decodes
  exact ⟨rfl, rfl, Option.some.inj (r.alg.symm.trans r'.alg)⟩

theorem content_eq_val_iff (e : Env) (c : Content) :
    content e = .val c ↔ ∃ ms h alg, Reads e ms h alg ∧ c = contentOf e ms h alg := by
  constructor
  · intro hv
    unfold content at hv
    split at hv
    · cases hv
    split at hv
    · cases hv
    simp only [guard_passed, ne_eq, reduceCtorEq, not_false_eq_true, Bool.not_eq_false'] at hv
    obtain ⟨h1, hv⟩ := hv
    split at hv
    · cases hv
    simp only [guard_passed, ne_eq, reduceCtorEq, not_false_eq_true, Bool.not_eq_false', Outcome.val.injEq] at hv
    exact ⟨_, _, _, ⟨‹_›, ‹_›, h1, ‹_›, hv.1⟩, hv.2.symm⟩
  · rintro ⟨ms, h, alg, r, rfl⟩
    simp [content, r.members, r.decodes, r.gates1, r.alg, r.gates2]

theorem verifyJWT_iff (e : Env) : verifyJWT e = true ↔
    (e.protDot = false ∧ e.payDot = false ∧ e.sigDot = false) ∧
    ∃ ms a, e.prot = .obj ms ∧ jwtAlg ms = some a ∧ Generated.validMethods.contains a = true ∧
      e.claimsOK = true ∧ e.payloadB64ok = true ∧ e.sigB64ok = true ∧ e.sigok.lookup a = some true := by
  unfold verifyJWT
  split
  next ms hp =>
    split
    next a ha => cases hl : e.sigok.lookup a <;> simp [hp, ha, hl, and_assoc]
    next ha => simp [hp, ha]
  next hp => exact ⟨fun h => by simp at h, fun ⟨_, ms, _, h, _⟩ => (hp ms h).elim⟩

theorem verify_eq_val_iff (e : Env) (c : Content) : verify e = .val c ↔
    (∃ id rest, e.x5c = some id :: rest) ∧ verifyJWT e = true ∧ content e = .val c := by
  unfold verify
  split
  · simp [*]
  · simp [*]
  · cases verifyJWT e <;> simp [*]

end NotationCore.Proofs.Jws
