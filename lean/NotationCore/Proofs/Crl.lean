import NotationCore.Model.Crl
/-!
  Loops that return at the first element of some kind are `List.find?` on that kind:
  `firstStop_loop` for the two revocation loops (`Ocsp.serverLoop` over responders, `Crl.loop` over
  distribution points), `scan_eq` for `Crl.scan` (C10), which otherwise answers for the latest
  temporary entry that counts.
-/
namespace NotationCore.Proofs

theorem firstStop_loop {α σ ρ : Type} {stop : α → Bool} {out : α → ρ} {entry : α → σ}
    {L : List α → List σ → ρ}
    (hL : ∀ u us acc, L (u :: us) acc = if stop u then out u else L us (entry u :: acc))
    (us : List α) (acc : List σ) :
    L us acc = match us.find? stop with
      | some u => out u
      | none => L [] ((us.map entry).reverse ++ acc) := by
  induction us generalizing acc with
  | nil => rfl
  | cons u us ih =>
    rw [hL, List.find?_cons]
    cases stop u
    · simp [ih]
    · rfl

end NotationCore.Proofs

namespace NotationCore.Proofs.Crl
open NotationCore Crl

/-- entries that pertain to the certificate -/
def matching (serial : Int) (es : List Entry) : List Entry := es.filter (fun e => e.serial == serial)

/-- entries that count: pertain to the certificate and are not excused by their invalidity date -/
def counting (serial : Int) (st : Time) (es : List Entry) : List Entry :=
  (matching serial es).filter (fun e => !excused st e)

theorem mem_matching {serial : Int} {es : List Entry} {e : Entry} :
    e ∈ matching serial es ↔ e ∈ es ∧ (e.serial == serial) = true := List.mem_filter

theorem mem_counting {serial : Int} {st : Time} {es : List Entry} {e : Entry} :
    e ∈ counting serial st es ↔ e ∈ matching serial es ∧ excused st e = false := by
  simp [counting]

/-- `latestTempRevokedEntry` after folding a list of (counting, temporary) entries -/
def lat : Option Entry → List Entry → Option Entry
  | l, [] => l
  | none, e :: es => lat (some e) es
  | some l, e :: es => if l.revTime < e.revTime then lat (some e) es else lat (some l) es

def verdictOfLatest : Option Entry → EntryVerdict
  | some l => if l.reason == Generated.reasonHold then .revoked else .ok
  | none => .ok

/-- an entry at which the scan returns: with an error if its extensions do not parse, else Revoked -/
def stops (serial : Int) (st : Time) (e : Entry) : Bool :=
  e.serial == serial && (e.badExt || (!excused st e && !isTemp e.reason))

theorem counting_cons (serial : Int) (st : Time) (e : Entry) (es : List Entry) :
    counting serial st (e :: es) =
      if (e.serial == serial && !excused st e) = true then e :: counting serial st es else counting serial st es := by
  simp only [counting, matching, List.filter_cons]
  cases e.serial == serial <;> cases hx : excused st e <;> simp [hx]

theorem scan_eq (serial : Int) (st : Time) (es : List Entry) (l : Option Entry) :
    scan serial st es l =
      match es.find? (stops serial st) with
      | some e => if e.badExt then .err else .revoked
      | none => verdictOfLatest (lat l (counting serial st es)) := by
  induction es generalizing l with
  | nil => cases l <;> rfl
  | cons e es ih =>
    -- the branches of `scan`, in its order; in each the three sides move in step
    simp only [scan, List.find?_cons, stops, counting_cons]
    cases e.serial == serial
    · exact ih l
    cases hb : e.badExt
    · cases excused st e
      · cases isTemp e.reason
        · simp [hb]
        · cases l with
          | none => exact ih _
          | some l' => by_cases h : l'.revTime < e.revTime <;> simpa [lat, h] using ih _
      · exact ih l
    · simp [hb]

theorem lat_some (a : Entry) (es : List Entry) :
    ∃ r, lat (some a) es = some r ∧ (r = a ∨ r ∈ es) ∧ a.revTime ≤ r.revTime ∧ ∀ e ∈ es, e.revTime ≤ r.revTime := by
  induction es generalizing a with
  | nil => exact ⟨a, rfl, .inl rfl, Int.le_refl _, by simp⟩
  | cons e es ih =>
    rw [lat]
    split
    · obtain ⟨r, h, hm, hle, hall⟩ := ih e
      exact ⟨r, h, .inr (List.mem_cons.mpr hm), by omega, List.forall_mem_cons.mpr ⟨hle, hall⟩⟩
    · obtain ⟨r, h, hm, hle, hall⟩ := ih a
      exact ⟨r, h, hm.imp_right (List.mem_cons_of_mem _), hle, List.forall_mem_cons.mpr ⟨by omega, hall⟩⟩

theorem lat_none (C : List Entry) :
    (C = [] ∧ lat none C = none) ∨ ∃ r, lat none C = some r ∧ r ∈ C ∧ ∀ e ∈ C, e.revTime ≤ r.revTime := by
  cases C with
  | nil => exact .inl ⟨rfl, rfl⟩
  | cons a es =>
    obtain ⟨r, h, hm, hle, hall⟩ := lat_some a es
    exact .inr ⟨r, h, List.mem_cons.mpr hm, List.forall_mem_cons.mpr ⟨hle, hall⟩⟩

end NotationCore.Proofs.Crl
