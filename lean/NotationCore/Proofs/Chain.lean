import NotationCore.Spec.Chain
/-! Each check of the chain validator `= .ok ()` exactly on its clause of `Spec.Chain` (C03, C14). -/
namespace NotationCore.Proofs.Chain
open NotationCore Chain Algorithm Spec

theorem bind_ok {a : R} {b : Unit → R} : (a >>= b) = .ok () ↔ a = .ok () ∧ b () = .ok () := by
  cases a with
  | error e => simp [bind, Except.bind]
  | ok u => cases u; simp [bind, Except.bind]

/-- a guarded error in front of a result: every check of the chain validator has this shape -/
theorem ite_error_ok {c : Bool} {e : Err} {r : R} : (if c then .error e else r) = .ok () ↔ c = false ∧ r = .ok () := by
  cases c <;> simp

theorem validateSigningTime_ok (c : Cert) (st : Option Time) :
    validateSigningTime c st = .ok () ↔ InValidity c st := by
  unfold validateSigningTime InValidity
  cases st with
  | none => simp
  | some t =>
    rw [ite_error_ok]
    simp only [Option.some.injEq, forall_eq', Bool.or_eq_false_iff, decide_eq_false_iff_not, Int.not_lt, and_true, gt_iff_lt]

theorem extractKeySpec_isSome (k : Key) : (extractKeySpec k).isSome = true ↔ k ∈ approvedKeys := by
  cases k <;> simp [extractKeySpec, Generated.extractRsa, Generated.extractEc, approvedKeys]

theorem validateSignatureAlgorithm_ok (c : Cert) :
    validateSignatureAlgorithm c = .ok () ↔ c.key ∈ approvedKeys := by
  rw [← extractKeySpec_isSome]
  unfold validateSignatureAlgorithm
  cases extractKeySpec c.key <;> simp

theorem validateLeafBasicConstraints_ok (c : Cert) :
    validateLeafBasicConstraints c = .ok () ↔ ¬ (c.bcValid = true ∧ c.isCA = true) := by
  unfold validateLeafBasicConstraints
  rw [ite_error_ok]
  simp

/-- neither `any` fires; over the literal tables that is the conjunction of the specification -/
theorem validateLeafKeyUsage_ok (c : Cert) :
    validateLeafKeyUsage c = .ok () ↔ DigitalSignatureOnly c.ku := by
  unfold validateLeafKeyUsage DigitalSignatureOnly
  rw [ite_error_ok, ite_error_ok]
  simp [Generated.leafRequiredKu, Generated.leafForbiddenKu]

theorem keyUsagePresent_ok (p : Purpose) (c : Cert) :
    keyUsagePresent p c = .ok () ↔ KeyUsagePresent p c := by
  cases p <;> simp only [keyUsagePresent, csKeyUsagePresent, tsKeyUsagePresent, KeyUsagePresent]
  · rcases c.kuExt with _ | _ | _ <;> simp
  · cases c.kuExt <;> simp

theorem leafEKU_ok (p : Purpose) (c : Cert) :
    extendedKeyUsage p c = .ok () ↔ LeafEKU p c := by
  cases p
  · simp [extendedKeyUsage, csExtendedKeyUsage, LeafEKU, Generated.excludedEkus]
  · unfold extendedKeyUsage tsExtendedKeyUsage LeafEKU
    rw [ite_error_ok]
    simp only [Generated.tsEku, Bool.or_eq_false_iff, bne_eq_false_iff_eq, and_assoc, and_congr_right_iff]
    intro _ _
    rcases c.ekuExt with _ | _ | _ <;> simp

theorem leafChecks_ok (p : Purpose) (c : Cert) : leafChecks p c = .ok () ↔ LeafOK p c := by
  unfold leafChecks LeafOK
  rw [bind_ok, bind_ok, bind_ok, bind_ok, validateLeafBasicConstraints_ok, keyUsagePresent_ok,
    validateLeafKeyUsage_ok, leafEKU_ok, validateSignatureAlgorithm_ok]

theorem validateCABasicConstraints_ok (c : Cert) (n : Nat) :
    validateCABasicConstraints c n = .ok () ↔
      c.bcValid = true ∧ c.isCA = true ∧ (PathLenPresent c → (n : Int) ≤ c.maxPathLen) := by
  unfold validateCABasicConstraints PathLenPresent
  rw [ite_error_ok, ite_error_ok]
  simp [and_assoc]

theorem caCertSign_ok (p : Purpose) (c : Cert) : caCertSign p c = .ok () ↔ hasBit c.ku 32 = true := by
  unfold caCertSign
  rw [ite_error_ok]
  cases p <;> simp [Generated.caRequiredKu, Generated.caRequiredKuTs]

theorem caChecks_ok (p : Purpose) (c : Cert) (n : Nat) : caChecks p c n = .ok () ↔ CAOK p c n := by
  unfold caChecks CAOK
  rw [bind_ok, bind_ok, validateCABasicConstraints_ok, keyUsagePresent_ok, caCertSign_ok]
  constructor
  · rintro ⟨⟨a, b, c⟩, d, e⟩; exact ⟨a, b, c, d, e⟩
  · rintro ⟨a, b, c, d, e⟩; exact ⟨⟨a, b, c⟩, d, e⟩

/-- a certificate that passes the CA checks is an admissible `CheckSignatureFrom` parent -/
theorem checkSignatureFrom_of_CAOK {p : Purpose} {sig : Sig} {c par : Cert} {n : Nat}
    (h : CAOK p par n) : checkSignatureFrom sig c par = sig c.id par.id := by
  obtain ⟨hb, hc, _, _, hk⟩ := h
  unfold checkSignatureFrom
  simp [hb, hc, hk]

theorem selfSignedDirect_iff (sigSelf : SigSelf) (c : Cert) :
    selfSignedDirect sigSelf c = true ↔ SelfSigned sigSelf c := by
  unfold selfSignedDirect SelfSigned; simp

end NotationCore.Proofs.Chain
