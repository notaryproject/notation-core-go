import NotationCore.Model.Conc
/-! Invariant of the fork/join skeleton and its preservation by every atomic action. -/
namespace NotationCore.Conc

variable {α : Type}

def sum (g : Nat → Nat) : Nat → Nat
  | 0 => 0
  | n + 1 => sum g n + g n

theorem sum_congr (g g' : Nat → Nat) (n : Nat) (h : ∀ j, j < n → g' j = g j) : sum g' n = sum g n := by
  induction n with
  | zero => rfl
  | succ n ih =>
    simp only [sum]
    rw [ih (fun j hj => h j (by omega)), h n (by omega)]

theorem sum_update (g g' : Nat → Nat) (n i : Nat) (hi : i < n) (h : ∀ j, j < n → j ≠ i → g' j = g j) :
    sum g' n + g i = sum g n + g' i := by
  induction n with
  | zero => omega
  | succ n ih =>
    simp only [sum]
    by_cases hin : i = n
    · subst hin
      have := sum_congr g g' i (fun j hj => h j (by omega) (by omega))
      omega
    · have h1 := ih (by omega) (fun j hj hne => h j (by omega) hne)
      have h2 := h n (by omega) (fun e => hin e.symm)
      omega

theorem sum_const (c n : Nat) : sum (fun _ => c) n = c * n := by
  induction n with
  | zero => simp [sum]
  | succ n ih => simp only [sum, ih]; rw [Nat.mul_succ]

theorem sum_eq_zero (g : Nat → Nat) (n : Nat) (h : ∀ j, j < n → g j = 0) : sum g n = 0 := by
  rw [sum_congr (fun _ => 0) g n h, sum_const, Nat.zero_mul]

theorem sum_ge (g : Nat → Nat) (n i : Nat) (hi : i < n) : g i ≤ sum g n := by
  induction n with
  | zero => omega
  | succ n ih =>
    simp only [sum]
    by_cases hin : i = n
    · subst hin; omega
    · have := ih (by omega); omega

theorem sum_pos_iff (g : Nat → Nat) (n : Nat) : 0 < sum g n ↔ ∃ i, i < n ∧ 0 < g i := by
  refine ⟨fun h => ?_, fun ⟨i, hi, hp⟩ => Nat.lt_of_lt_of_le hp (sum_ge g n i hi)⟩
  induction n with
  | zero => simp [sum] at h
  | succ n ih =>
    simp only [sum] at h
    by_cases hg : 0 < g n
    · exact ⟨n, by omega, hg⟩
    · obtain ⟨i, hi, hp⟩ := ih (by omega)
      exact ⟨i, by omega, hp⟩

theorem sum_le (g : Nat → Nat) (n : Nat) (h : ∀ i, i < n → g i ≤ 1) : sum g n ≤ n := by
  induction n with
  | zero => simp [sum]
  | succ n ih =>
    simp only [sum]
    have := ih (fun i hi => h i (by omega))
    have := h n (by omega)
    omega

def active : TPc α → Bool
  | .ready => true
  | .haveVal _ => true
  | .panicking _ => true
  | .epilogue => true
  | _ => false

/-- body and recover-defer are over -/
def past : TPc α → Bool
  | .epilogue => true
  | .finished => true
  | _ => false

def isPanic : Res α → Bool
  | .panic _ => true
  | .val _ => false

def act (s : State α) (i : Nat) : Nat := if active (s.tasks i) then 1 else 0
def sent (e : Env α) (s : State α) (i : Nat) : Nat := if past (s.tasks i) && isPanic (e.f i) then 1 else 0

def mainTerminal : MPc → Bool
  | .returned => true
  | .repanicked _ => true
  | _ => false

/-- the main goroutine is past `wg.Wait()` -/
def afterWait : MPc → Bool
  | .selecting => true
  | .returned => true
  | .repanicked _ => true
  | _ => false

def afterStoreLast : MPc → Bool
  | .waiting => true
  | m => afterWait m

/-- number of goroutines started so far -/
def spawned (e : Env α) : MPc → Nat
  | .spawning k => k
  | _ => e.m

/-- What holds in every reachable state.  Two clauses count and carry the two "never crashes, never blocks" facts: `wgCount`
    (the WaitGroup counter is the number of live goroutines, so `Done` never finds it at zero and `Wait` passes only when all
    have finished) and `chanLen` (the channel holds one panic per goroutine past its body whose check panicked, at most `m`, so
    a send never finds it full).  The others say where each goroutine's outcome is (`slotPast`, `slotEarly`, `chanMem`) and
    what the control state of the main goroutine implies (`allDone`, `closedIff`, `retOk`, `repanOk`). -/
structure Inv (e : Env α) (s : State α) : Prop where
  notCrashed : s.crashed = false
  wgCount : s.wg = sum (act s) e.m
  spawnLe : spawned e s.main ≤ e.m
  born : ∀ i, i < spawned e s.main → s.tasks i ≠ .unborn
  unborn : ∀ i, spawned e s.main ≤ i → s.tasks i = .unborn
  valOk : ∀ i r, s.tasks i = .haveVal r → e.f i = .val r
  panicOk : ∀ i p, s.tasks i = .panicking p → e.f i = .panic p
  slotPast : ∀ i, i < e.m → past (s.tasks i) = true → s.slots i = (match e.f i with | .val r => some r | .panic _ => none)
  slotEarly : ∀ i, i < e.m → past (s.tasks i) = false → s.slots i = none
  slotLast : s.slots e.m = if afterStoreLast s.main then some e.root else none
  chanMem : mainTerminal s.main = false → ∀ p, p ∈ s.chan ↔ ∃ i, i < e.m ∧ past (s.tasks i) = true ∧ e.f i = .panic p
  chanLen : mainTerminal s.main = false → s.chan.length = sum (sent e s) e.m
  closedIff : s.closed = mainTerminal s.main
  allDone : afterWait s.main = true → ∀ i, i < e.m → s.tasks i = .finished
  retOk : s.main = .returned → ∀ i, i < e.m → isPanic (e.f i) = false
  repanOk : ∀ p, s.main = .repanicked p → ∃ i, i < e.m ∧ e.f i = .panic p

/-- what slot `i` holds once goroutine `i` is past its body (`Inv.slotPast` says so, spelt out) -/
def slotOf (e : Env α) (i : Nat) : Option α :=
  match e.f i with
  | .val r => some r
  | .panic _ => none

def panicOf : Res α → Option Nat
  | .panic p => some p
  | .val _ => none

theorem inv_init (e : Env α) : Inv e (init : State α) where
  notCrashed := rfl
  wgCount := (sum_eq_zero _ _ fun _ _ => rfl).symm
  spawnLe := Nat.zero_le _
  born := fun _ hi => absurd hi (Nat.not_lt_zero _)
  unborn := fun _ _ => rfl
  valOk := fun _ _ h => nomatch h
  panicOk := fun _ _ h => nomatch h
  slotPast := fun _ _ h => nomatch h
  slotEarly := fun _ _ _ => rfl
  slotLast := rfl
  chanMem := fun _ _ => ⟨nofun, fun ⟨_, _, h, _⟩ => nomatch h⟩
  chanLen := fun _ => (sum_eq_zero _ _ fun _ _ => rfl).symm
  closedIff := rfl
  allDone := fun h => nomatch h
  retOk := fun h => nomatch h
  repanOk := fun _ h => nomatch h

theorem not_terminal_of_beforeWait {m : MPc} (h : afterWait m = false) : mainTerminal m = false := by
  cases m <;> first | rfl | cases h

theorem Inv.beforeWait {e : Env α} {s : State α} (h : Inv e s) {i : Nat} (hi : i < e.m) (ha : active (s.tasks i) = true) :
    afterWait s.main = false := by
  cases haw : afterWait s.main with
  | false => rfl
  | true => rw [h.allDone haw i hi] at ha; cases ha

theorem Inv.wg_pos_iff {e : Env α} {s : State α} (h : Inv e s) : 0 < s.wg ↔ ∃ i, i < e.m ∧ active (s.tasks i) = true := by
  have hact i : 0 < act s i ↔ active (s.tasks i) = true := by unfold act; split <;> simp [*]
  rw [h.wgCount, sum_pos_iff]
  simp only [hact]

theorem finished_of (pc : TPc α) (h1 : active pc = false) (h2 : pc ≠ .unborn) : pc = .finished := by
  cases pc <;> simp_all [active]

theorem Inv.finished_of_wg_zero {e : Env α} {s : State α} (h : Inv e s) (hsp : spawned e s.main = e.m) (hw : s.wg = 0) (i : Nat)
    (hi : i < e.m) : s.tasks i = .finished := by
  refine finished_of _ ?_ (h.born i (hsp ▸ hi))
  cases ha : active (s.tasks i) with
  | false => rfl
  | true => have := h.wg_pos_iff.mpr ⟨i, hi, ha⟩; omega

/-- `step` without its blocked and its crashing branches -/
inductive Move (e : Env α) (s : State α) : Tid → State α → Prop
  | spawn (k : Nat) : s.main = .spawning k → k < e.m → s.tasks k = .unborn →
      Move e s .main { (setTask s k .ready) with wg := s.wg + 1, main := .spawning (k + 1) }
  | spawnEnd : s.main = .spawning e.m → Move e s .main { s with main := .storeLast }
  | storeLast : s.main = .storeLast → Move e s .main { (setSlot s e.m e.root) with main := .waiting }
  | wait : s.main = .waiting → s.wg = 0 → Move e s .main { s with main := .selecting }
  | ret : s.main = .selecting → s.chan = [] → Move e s .main { s with main := .returned, closed := true }
  | repanic (p : Nat) (rest : List Nat) : s.main = .selecting → s.chan = p :: rest →
      Move e s .main { s with main := .repanicked p, chan := rest, closed := true }
  | val (i : Nat) (r : α) : i < e.m → s.tasks i = .ready → e.f i = .val r → Move e s (.task i) (setTask s i (.haveVal r))
  | panic (i p : Nat) : i < e.m → s.tasks i = .ready → e.f i = .panic p → Move e s (.task i) (setTask s i (.panicking p))
  | store (i : Nat) (r : α) : i < e.m → s.tasks i = .haveVal r → Move e s (.task i) (setTask (setSlot s i r) i .epilogue)
  | send (i p : Nat) : i < e.m → s.tasks i = .panicking p →
      Move e s (.task i) { (setTask s i .epilogue) with chan := s.chan ++ [p] }
  | done (i : Nat) : i < e.m → s.tasks i = .epilogue → 0 < s.wg → Move e s (.task i) { (setTask s i .finished) with wg := s.wg - 1 }

theorem Inv.move {e : Env α} {s s' : State α} {t : Tid} (h : Inv e s) (hs : step e s t = some s') : Move e s t s' := by
  cases t with
  | main =>
    simp only [step] at hs
    split at hs
    next k hm =>
      have hle := h.spawnLe
      rw [hm] at hle
      split at hs <;> cases hs
      next hk => exact .spawn k hm hk (h.unborn k (by rw [hm]; exact Nat.le_refl k))
      next hk => exact .spawnEnd (by rw [hm, show k = e.m from Nat.le_antisymm hle (Nat.le_of_not_lt hk)])
    next hm => cases hs; exact .storeLast hm
    next hm =>
      split at hs <;> cases hs
      next hw => exact .wait hm hw
    next hm =>
      split at hs <;> cases hs
      next hc => exact .ret hm hc
      next p rest hc => exact .repanic p rest hm hc
    next => cases hs
    next => cases hs
  | task i =>
    simp only [step] at hs
    split at hs
    next hi =>
      split at hs
      next => cases hs
      next ht =>
        split at hs <;> cases hs
        next r hf => exact .val i r hi ht hf
        next p hf => exact .panic i p hi ht hf
      next r ht => cases hs; exact .store i r hi ht
      next p ht =>
        -- the channel is open: the main goroutine is still before `wg.Wait()`
        have hcl : s.closed = false := by
          rw [h.closedIff]; exact not_terminal_of_beforeWait (h.beforeWait hi (by rw [ht]; rfl))
        rw [hcl] at hs
        split at hs
        next hh => cases hh
        next =>
          split at hs <;> cases hs
          exact .send i p hi ht
      next ht =>
        have hpos := h.wg_pos_iff.mpr ⟨i, hi, by rw [ht]; rfl⟩
        split at hs <;> cases hs
        next hw => omega
        next => exact .done i hi ht hpos
      next => cases hs
    next => cases hs

theorem forall_update {β : Type} {P : Nat → β → Prop} (g : Nat → β) (i : Nat) (b : β) (hi : P i b) (h : ∀ j, j ≠ i → P j (g j))
    (j : Nat) : P j (if j = i then b else g j) := by
  by_cases hji : j = i
  · rw [if_pos hji, hji]; exact hi
  · rw [if_neg hji]; exact h j hji

theorem sum_update_task (G : Nat → TPc α → Nat) (tasks : Nat → TPc α) (pc' : TPc α) {i n : Nat} (hi : i < n) :
    sum (fun j => G j (if j = i then pc' else tasks j)) n + G i (tasks i) = sum (fun j => G j (tasks j)) n + G i pc' := by
  have := sum_update (fun j => G j (tasks j)) (fun j => G j (if j = i then pc' else tasks j)) n i hi
    (fun j _ hne => by simp only [if_neg hne])
  simpa only [if_pos] using this

/-- Goroutine `i` goes from `pc` to `pc'`, a state that agrees with the outcome of its check.  The main
    goroutine stays where it is, or — the birth of the goroutine, `pc = .unborn` — counts it as started.
    Either the goroutine stays on the same side of its epilogue and touches neither slots nor channel, or
    it enters the epilogue and hands over the outcome: a value into slot `i`, a panic onto the channel. -/
theorem inv_task {e : Env α} {s : State α} {i : Nat} {pc : TPc α} (pc' : TPc α) {main' : MPc} {slots' : Nat → Option α}
    {chan' : List Nat} {wg' : Nat} (h : Inv e s) (hi : i < e.m) (ht : s.tasks i = pc)
    (hmain : main' = s.main ∧ active pc = true ∨ s.main = .spawning i ∧ main' = .spawning (i + 1))
    (hpc' : match pc' with
      | .unborn => False
      | .haveVal r => e.f i = .val r
      | .panicking p => e.f i = .panic p
      | _ => True)
    (hwg : wg' + (if active pc then 1 else 0) = s.wg + (if active pc' then 1 else 0))
    (hout : past pc' = past pc ∧ slots' = s.slots ∧ chan' = s.chan ∨
      past pc = false ∧ past pc' = true ∧
        match e.f i with
        | .val r => slots' = (setSlot s i r).slots ∧ chan' = s.chan
        | .panic p => slots' = s.slots ∧ chan' = s.chan ++ [p]) :
    Inv e { s with tasks := fun j => if j = i then pc' else s.tasks j, slots := slots', chan := chan', wg := wg', main := main' } := by
  subst ht
  -- what the proof needs of `main'`: the same flags as `s.main`, still before `wg.Wait()`, and
  -- goroutine `i` the only one that may have been added to those started
  obtain ⟨haw, haw', hasl, hlt, hle, hsp⟩ : afterWait s.main = false ∧ afterWait main' = false ∧
      afterStoreLast main' = afterStoreLast s.main ∧ i < spawned e main' ∧ spawned e main' ≤ e.m ∧
      ∀ j, j ≠ i → (j < spawned e main' ↔ j < spawned e s.main) := by
    rcases hmain with ⟨rfl, ha⟩ | ⟨hm, rfl⟩
    · refine ⟨h.beforeWait hi ha, h.beforeWait hi ha, rfl, Nat.lt_of_not_le fun hle => ?_, h.spawnLe, fun _ _ => Iff.rfl⟩
      rw [h.unborn i hle] at ha; cases ha
    · rw [hm]; exact ⟨rfl, rfl, rfl, Nat.lt_succ_self i, hi, fun j hne => by simp only [spawned]; omega⟩
  have hnt := not_terminal_of_beforeWait haw
  -- what it needs of slots and channel: the other slots are left alone, slot `i` and the channel follow `past`
  obtain ⟨hslots, hslot, hmono, hchanMem, hchanLen⟩ : (∀ j, j ≠ i → slots' j = s.slots j) ∧
      (slots' i = if past pc' then slotOf e i else none) ∧ (past (s.tasks i) = true → past pc' = true) ∧
      (∀ p, p ∈ chan' ↔ (p ∈ s.chan ∨ (past (s.tasks i) = false ∧ past pc' = true ∧ e.f i = .panic p))) ∧
      (chan'.length + (if past (s.tasks i) && isPanic (e.f i) then 1 else 0) =
        s.chan.length + (if past pc' && isPanic (e.f i) then 1 else 0)) := by
    rcases hout with ⟨hp, rfl, rfl⟩ | ⟨hp, hp', hd⟩
    · rw [hp]
      cases hq : past (s.tasks i) with
      | false => exact ⟨fun _ _ => rfl, h.slotEarly i hi hq, nofun, by simp, rfl⟩
      | true => exact ⟨fun _ _ => rfl, h.slotPast i hi hq, fun _ => rfl, by simp, rfl⟩
    · rw [hp, hp']
      cases hf : e.f i with
      | val r =>
        rw [hf] at hd; obtain ⟨rfl, rfl⟩ := hd
        exact ⟨fun j hj => if_neg hj, by simp [setSlot, slotOf, hf], nofun, by simp, rfl⟩
      | panic p =>
        rw [hf] at hd; obtain ⟨rfl, rfl⟩ := hd
        exact ⟨fun _ _ => rfl, by simp [slotOf, hf, h.slotEarly i hi hp], nofun, by simp [eq_comm], by simp [isPanic]⟩
  exact {
    notCrashed := h.notCrashed
    wgCount := by
      have := sum_update_task (fun _ pc => if active pc then 1 else 0) s.tasks pc' hi
      have : s.wg = sum (fun j => if active (s.tasks j) then 1 else 0) e.m := h.wgCount
      show wg' = sum (fun j => if active (if j = i then pc' else s.tasks j) then 1 else 0) e.m
      omega
    spawnLe := hle
    born := forall_update (P := fun j pc => j < spawned e main' → pc ≠ .unborn) _ i pc' (fun _ => by rintro rfl; exact hpc')
      (fun j hne hj => h.born j ((hsp j hne).mp hj))
    unborn := forall_update (P := fun j pc => spawned e main' ≤ j → pc = .unborn) _ i pc' (fun hle => absurd hlt (Nat.not_lt_of_le hle))
      (fun j hne hj => h.unborn j (Nat.le_of_not_lt fun hlt => Nat.not_lt_of_le hj ((hsp j hne).mpr hlt)))
    valOk := forall_update (P := fun j pc => ∀ r, pc = .haveVal r → e.f j = .val r) _ i pc' (by rintro r rfl; exact hpc')
      (fun j _ => h.valOk j)
    panicOk := forall_update (P := fun j pc => ∀ p, pc = .panicking p → e.f j = .panic p) _ i pc' (by rintro p rfl; exact hpc')
      (fun j _ => h.panicOk j)
    slotPast := forall_update (P := fun j pc => j < e.m → past pc = true → slots' j = slotOf e j) _ i pc'
      (fun _ hp => by rw [hslot, hp]; rfl) (fun j hne hj hp => (hslots j hne).trans (h.slotPast j hj hp))
    slotEarly := forall_update (P := fun j pc => j < e.m → past pc = false → slots' j = none) _ i pc'
      (fun _ hp => by rw [hslot, hp]; rfl) (fun j hne hj hp => (hslots j hne).trans (h.slotEarly j hj hp))
    slotLast := (hslots e.m (Nat.ne_of_gt hi)).trans (h.slotLast.trans (by rw [hasl]))
    chanMem := fun _ p => by
      show p ∈ chan' ↔ ∃ j, j < e.m ∧ past (if j = i then pc' else s.tasks j) = true ∧ e.f j = .panic p
      rw [hchanMem p, h.chanMem hnt p]
      constructor
      · rintro (⟨j, hj, hp, hf⟩ | ⟨_, hp, hf⟩)
        · exact ⟨j, hj, forall_update (P := fun j pc => past (s.tasks j) = true → past pc = true) _ i pc' hmono (fun _ _ hp => hp) j hp, hf⟩
        · exact ⟨i, hi, by rw [if_pos rfl]; exact hp, hf⟩
      · rintro ⟨j, hj, hp, hf⟩
        by_cases hji : j = i
        · subst hji
          rw [if_pos rfl] at hp
          cases hold : past (s.tasks j) with
          | true => exact Or.inl ⟨j, hj, hold, hf⟩
          | false => exact Or.inr ⟨rfl, hp, hf⟩
        · rw [if_neg hji] at hp
          exact Or.inl ⟨j, hj, hp, hf⟩
    chanLen := fun _ => by
      have := sum_update_task (fun j pc => if past pc && isPanic (e.f j) then 1 else 0) s.tasks pc' hi
      have : s.chan.length = sum (fun j => if past (s.tasks j) && isPanic (e.f j) then 1 else 0) e.m := h.chanLen hnt
      show chan'.length = sum (fun j => if past (if j = i then pc' else s.tasks j) && isPanic (e.f j) then 1 else 0) e.m
      omega
    closedIff := h.closedIff.trans (hnt.trans (not_terminal_of_beforeWait haw').symm)
    allDone := fun ha => by rw [show afterWait main' = true from ha] at haw'; cases haw'
    retOk := fun hr => by rw [show main' = .returned from hr] at haw'; cases haw'
    repanOk := fun p hr => by rw [show main' = .repanicked p from hr] at haw'; cases haw' }

theorem inv_main {e : Env α} {s : State α} {m : MPc} (main' : MPc) {slots' : Nat → Option α} (h : Inv e s) (hm : s.main = m)
    (hsp : spawned e main' = spawned e m)
    (hslots : ∀ j, j < e.m → slots' j = s.slots j)
    (hlast : slots' e.m = if afterStoreLast main' then some e.root else none)
    (hterm : mainTerminal main' = false) (hterm0 : mainTerminal m = false)
    (hdone : afterWait main' = true → ∀ i, i < e.m → s.tasks i = .finished) :
    Inv e { s with main := main', slots := slots' } := by
  subst hm
  exact {
    notCrashed := h.notCrashed
    wgCount := h.wgCount
    spawnLe := hsp ▸ h.spawnLe
    born := hsp ▸ h.born
    unborn := hsp ▸ h.unborn
    valOk := h.valOk
    panicOk := h.panicOk
    slotPast := fun i hi hp => (hslots i hi).trans (h.slotPast i hi hp)
    slotEarly := fun i hi hp => (hslots i hi).trans (h.slotEarly i hi hp)
    slotLast := hlast
    chanMem := fun _ => h.chanMem hterm0
    chanLen := fun _ => h.chanLen hterm0
    closedIff := h.closedIff.trans (hterm0.trans hterm.symm)
    allDone := hdone
    retOk := fun hr => by rw [show main' = .returned from hr] at hterm; cases hterm
    repanOk := fun p hr => by rw [show main' = .repanicked p from hr] at hterm; cases hterm }

/-- the `select`: the main goroutine ends in `main'` (returned or re-panicked), the deferred close runs -/
theorem inv_select {e : Env α} {s : State α} (main' : MPc) {chan' : List Nat} (h : Inv e s) (hm : s.main = .selecting)
    (hsp : spawned e main' = e.m) (hasl : afterStoreLast main' = true) (hterm : mainTerminal main' = true)
    (hret : main' = .returned → ∀ i, i < e.m → isPanic (e.f i) = false)
    (hrep : ∀ p, main' = .repanicked p → ∃ i, i < e.m ∧ e.f i = .panic p) :
    Inv e { s with main := main', chan := chan', closed := true } where
  notCrashed := h.notCrashed
  wgCount := h.wgCount
  spawnLe := Nat.le_of_eq hsp
  born := fun i hi => h.born i (by rw [hm]; rw [hsp] at hi; exact hi)
  unborn := fun i hi => h.unborn i (by rw [hm]; rw [hsp] at hi; exact hi)
  valOk := h.valOk
  panicOk := h.panicOk
  slotPast := h.slotPast
  slotEarly := h.slotEarly
  slotLast := by have := h.slotLast; rw [hm] at this; exact this.trans (by rw [hasl]; rfl)
  chanMem := fun hh => nomatch hterm.symm.trans hh
  chanLen := fun hh => nomatch hterm.symm.trans hh
  closedIff := hterm.symm
  allDone := fun _ => h.allDone (by rw [hm]; rfl)
  retOk := hret
  repanOk := hrep

/-- the invariant is preserved by every enabled atomic action of every thread -/
theorem inv_step (e : Env α) (s s' : State α) (t : Tid) (h : Inv e s) (hs : step e s t = some s') : Inv e s' := by
  cases h.move hs with
  | spawn k hm hk hunb => exact inv_task .ready h hk hunb (.inr ⟨hm, rfl⟩) trivial rfl (.inl ⟨rfl, rfl, rfl⟩)
  | spawnEnd hm => exact inv_main .storeLast h hm rfl (fun _ _ => rfl) (hm ▸ h.slotLast :) rfl rfl nofun
  | storeLast hm => exact inv_main (s := s) .waiting h hm rfl (fun j hj => if_neg (Nat.ne_of_lt hj)) (if_pos rfl) rfl rfl nofun
  | wait hm hw =>
    exact inv_main .selecting h hm rfl (fun _ _ => rfl) (hm ▸ h.slotLast :) rfl rfl (fun _ => h.finished_of_wg_zero (by rw [hm]; rfl) hw)
  | ret hm hc =>
    -- an empty channel past `wg.Wait()`: no check panicked
    refine inv_select .returned h hm rfl rfl rfl (fun _ i hi => ?_) nofun
    cases hf : e.f i with
    | val r => rfl
    | panic p =>
      have : p ∈ s.chan := (h.chanMem (by rw [hm]; rfl) p).mpr ⟨i, hi, by rw [h.allDone (by rw [hm]; rfl) i hi]; rfl, hf⟩
      rw [hc] at this; cases this
  | repanic p rest hm hc =>
    refine inv_select (.repanicked p) h hm rfl rfl rfl nofun (fun q hq => ?_)
    cases hq
    obtain ⟨i, hi, _, hf⟩ := (h.chanMem (by rw [hm]; rfl) p).mp (by rw [hc]; exact .head _)
    exact ⟨i, hi, hf⟩
  | val i r hi ht hf => exact inv_task (.haveVal r) h hi ht (.inl ⟨rfl, rfl⟩) hf rfl (.inl ⟨rfl, rfl, rfl⟩)
  | panic i p hi ht hf => exact inv_task (.panicking p) h hi ht (.inl ⟨rfl, rfl⟩) hf rfl (.inl ⟨rfl, rfl, rfl⟩)
  | store i r hi ht =>
    exact inv_task (s := s) .epilogue h hi ht (.inl ⟨rfl, rfl⟩) trivial rfl (.inr ⟨rfl, rfl, by rw [h.valOk i r ht]; exact ⟨rfl, rfl⟩⟩)
  | send i p hi ht =>
    exact inv_task .epilogue h hi ht (.inl ⟨rfl, rfl⟩) trivial rfl (.inr ⟨rfl, rfl, by rw [h.panicOk i p ht]; exact ⟨rfl, rfl⟩⟩)
  | done i hi ht hpos =>
    exact inv_task .finished h hi ht (.inl ⟨rfl, rfl⟩) trivial (by simp [active]; omega) (.inl ⟨rfl, rfl, rfl⟩)

theorem inv_reachable (e : Env α) (s : State α) (h : Reachable e s) : Inv e s := by
  induction h with
  | init => exact inv_init e
  | step s s' t _ hs ih => exact inv_step e s s' t ih hs

end NotationCore.Conc
