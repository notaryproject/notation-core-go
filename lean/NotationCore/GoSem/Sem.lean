import NotationCore.GoSem.Syntax
/-!
  Meaning of the embedded Go subset (`GoSem.Syntax`): a big-step interpreter, total, structurally
  recursive on the syntax.  `none` / `Flow.stuck` stands for everything the subset does not give a
  meaning to — a run-time panic (nil dereference, index out of range), an unsupported construct
  (`.opaque`), an ill-typed operation — so a tie theorem `run … = some …` also says that none of
  these happens on the inputs it quantifies over.

  Block scoping follows Go: the store is a stack of frames, `:=` declares in the innermost frame
  (or re-assigns a variable already declared there), `=` assigns to the innermost declaration.
  Calls to the standard library and to other packages are `Env.prims` (parameters of the tie
  theorems, with the contract the model assumes); calls to functions of the same package are
  `Env.callee`, instantiated with the meaning already established for them.  A method call (`.mcall`) is
  looked up among the builtins and the primitives only: a method of the package that another function
  calls has to be given as a primitive.

  `Val.opaque n` is a value the code only hands on (a `pkix.Name`, a signature algorithm, raw bytes); the
  value builders in `Tie/Code` choose the numbers.  Among the builtins `mklist`, `mkobj` and `slice` are not Go
  names: the printer emits them for composite literals and slice expressions.  The zero `time.Time` is
  −62135596800 s, here in nanoseconds (`zeroT` of `Model/Basic.lean`).
-/
namespace NotationCore.GoSem

inductive Val where
  | bool : Bool → Val
  | int : Int → Val
  | str : String → Val
  | nil : Val
  | err : String → Nat → List Val → Val     -- created in function, site ordinal, arguments
  | obj : List (String × Val) → Val
  | list : List Val → Val
  | tuple : List Val → Val
  | opaque : Nat → Val
deriving Repr

abbrev Frame := List (String × Val)
abbrev Store := List Frame

def fget (f : Frame) (n : String) : Option Val :=
  match f with
  | [] => none
  | (k, v) :: r => if k == n then some v else fget r n

def fset (f : Frame) (n : String) (v : Val) : Option Frame :=
  match f with
  | [] => none
  | (k, w) :: r => if k == n then some ((k, v) :: r) else (fset r n v).map ((k, w) :: ·)

def sget (s : Store) (n : String) : Option Val :=
  match s with
  | [] => none
  | f :: r => match fget f n with
    | some v => some v
    | none => sget r n

/-- `x = v` : innermost frame that declares x -/
def sassign (s : Store) (n : String) (v : Val) : Option Store :=
  match s with
  | [] => none
  | f :: r => match fset f n v with
    | some f' => some (f' :: r)
    | none => (sassign r n v).map (f :: ·)

/-- `x := v` : redeclare in the top frame if there, else add to it -/
def sdefine (s : Store) (n : String) (v : Val) : Option Store :=
  match s with
  | [] => none
  | f :: r => match fset f n v with
    | some f' => some (f' :: r)
    | none => some (((n, v) :: f) :: r)

def sbind (s : Store) (define : Bool) (n : String) (v : Val) : Option Store :=
  if n == "_" then some s else if define then sdefine s n v else sassign s n v

def sbindAll (s : Store) (define : Bool) : List String → List Val → Option Store
  | [], [] => some s
  | n :: ns, v :: vs => match sbind s define n v with
    | some s' => sbindAll s' define ns vs
    | none => none
  | _, _ => none

def spop (s : Store) : Store := s.drop 1

/-- primitives supplied by the environment of a theorem: name, receiver-first arguments -/
abbrev Prims := String → List Val → Option Val

structure Env where
  fname : String                          -- function being run (for error sites)
  prims : Prims
  callee : String → List Val → Option Val -- meaning of calls to other functions of the package

def valEq : Val → Val → Option Bool
  | .bool a, .bool b => some (decide (a = b))
  | .int a, .int b => some (decide (a = b))
  | .str a, .str b => some (decide (a = b))
  | .nil, .nil => some true
  | .nil, .err _ _ _ => some false
  | .err _ _ _, .nil => some false
  | .nil, .int _ => some false      -- pointer to a value against nil
  | .int _, .nil => some false
  | .nil, .obj _ => some false
  | .obj _, .nil => some false
  | _, _ => none

section valEqLemmas
variable (a b : Bool) (i j : Int) (s t : String) (f : String) (k : Nat) (w : List Val) (fs : List (String × Val))
@[simp] theorem valEq_bool : valEq (.bool a) (.bool b) = some (decide (a = b)) := rfl
@[simp] theorem valEq_int : valEq (.int i) (.int j) = some (decide (i = j)) := rfl
@[simp] theorem valEq_str : valEq (.str s) (.str t) = some (decide (s = t)) := rfl
@[simp] theorem valEq_nil_nil : valEq .nil .nil = some true := rfl
@[simp] theorem valEq_nil_err : valEq .nil (.err f k w) = some false := rfl
@[simp] theorem valEq_err_nil : valEq (.err f k w) .nil = some false := rfl
@[simp] theorem valEq_nil_int : valEq .nil (.int i) = some false := rfl
@[simp] theorem valEq_int_nil : valEq (.int i) .nil = some false := rfl
@[simp] theorem valEq_nil_obj : valEq .nil (.obj fs) = some false := rfl
@[simp] theorem valEq_obj_nil : valEq (.obj fs) .nil = some false := rfl
end valEqLemmas

def binop (op : BinOp) (a b : Val) : Option Val :=
  match op, a, b with
  | .eq, a, b => (valEq a b).map .bool
  | .ne, a, b => (valEq a b).map (fun x => .bool (!x))
  | .lt, .int a, .int b => some (.bool (a < b))
  | .le, .int a, .int b => some (.bool (a ≤ b))
  | .gt, .int a, .int b => some (.bool (a > b))
  | .ge, .int a, .int b => some (.bool (a ≥ b))
  | .add, .int a, .int b => some (.int (a + b))
  | .sub, .int a, .int b => some (.int (a - b))
  | .band, .int a, .int b => some (.int (Int.ofNat (a.toNat &&& b.toNat)))
  | _, _, _ => none

/-- methods and package functions whose meaning is fixed (Go standard library, value level) -/
def builtin (name : String) (args : List Val) : Option Val :=
  match name, args with
  | "Before", [.int a, .int b] => some (.bool (a < b))
  | "After", [.int a, .int b] => some (.bool (a > b))
  | "Equal", [.int a, .int b] => some (.bool (decide (a = b)))
  | "IsZero", [.int a] => some (.bool (decide (a = -62135596800 * 1000000000)))
  | "bytes.Equal", [.int a, .int b] => some (.bool (decide (a = b)))
  | "len", [.list l] => some (.int l.length)
  | "append", [.list l, v] => some (.list (l ++ [v]))
  | "mklist", vs => some (.list vs)
  | "mkobj", [] => some (.obj [])
  | "slice", [.list l, .int lo, .nil] => if lo < 0 ∨ lo.toNat > l.length then none else some (.list (l.drop lo.toNat))
  | "slice", [.list l, .int lo, .int hi] =>
    if lo < 0 ∨ hi < lo ∨ hi.toNat > l.length then none else some (.list ((l.take hi.toNat).drop lo.toNat))
  | _, _ => none

/-- `v.f` -/
def field (v : Val) (f : String) : Option Val :=
  match v with
  | .obj fs => fget fs f
  | _ => none

/-- several results are passed around as one tuple value -/
def pack : List Val → Val
  | [v] => v
  | vs => .tuple vs

/-- a single multi-valued call on the right of `:=` / after `return` spreads into its values -/
def flatten : List Val → List Val
  | [.tuple ws] => ws
  | vs => vs

@[simp] theorem flatten_nil : flatten [] = [] := rfl
@[simp] theorem flatten_two (a b : Val) (l : List Val) : flatten (a :: b :: l) = a :: b :: l := by
  cases a <;> rfl
@[simp] theorem flatten_tuple (ws : List Val) : flatten [.tuple ws] = ws := rfl
@[simp] theorem flatten_bool (b : Bool) : flatten [.bool b] = [.bool b] := rfl
@[simp] theorem flatten_int (i : Int) : flatten [.int i] = [.int i] := rfl
@[simp] theorem flatten_str (s : String) : flatten [.str s] = [.str s] := rfl
@[simp] theorem flatten_vnil : flatten [.nil] = [.nil] := rfl
@[simp] theorem flatten_err (f : String) (k : Nat) (w : List Val) : flatten [.err f k w] = [.err f k w] := rfl
@[simp] theorem flatten_obj (fs : List (String × Val)) : flatten [.obj fs] = [.obj fs] := rfl
@[simp] theorem flatten_list (l : List Val) : flatten [.list l] = [.list l] := rfl
@[simp] theorem flatten_opaque (n : Nat) : flatten [.opaque n] = [.opaque n] := rfl

mutual
def eval (env : Env) (s : Store) : Expr → Option Val
  | .ident n => match sget s n with
    | some v => some v
    | none => env.prims n []     -- package-level variables
  | .int i => some (.int i)
  | .str x => some (.str x)
  | .nil => some .nil
  | .bool b => some (.bool b)
  | .emptyList => some (.list [])
  | .sel e f => match eval env s e with
    | some v => field v f
    | none => none
  | .call f args => match evalArgs env s args with
    | some vs => (match builtin f vs with
      | some v => some v
      | none => match env.prims f vs with
        | some v => some v
        | none => env.callee f vs)
    | none => none
  | .mcall r m args => match eval env s r, evalArgs env s args with
    | some rv, some vs => (match builtin m (rv :: vs) with
      | some v => some v
      | none => env.prims m (rv :: vs))
    | _, _ => none
  | .mkErr k args => match evalArgs env s args with
    | some vs => some (.err env.fname k vs)
    | none => none
  | .un op e => match op, eval env s e with
    | .not, some (.bool b) => some (.bool (!b))
    | .neg, some (.int i) => some (.int (-i))
    | .addr, some v => some v
    | .deref, some .nil => none
    | .deref, some v => some v
    | _, _ => none
  | .bin .and a b => match eval env s a with
    | some (.bool false) => some (.bool false)
    | some (.bool true) => (match eval env s b with
      | some (.bool y) => some (.bool y)
      | _ => none)
    | _ => none
  | .bin .or a b => match eval env s a with
    | some (.bool true) => some (.bool true)
    | some (.bool false) => (match eval env s b with
      | some (.bool y) => some (.bool y)
      | _ => none)
    | _ => none
  | .bin op a b => match eval env s a, eval env s b with
    | some x, some y => binop op x y
    | _, _ => none
  | .index e i => match eval env s e, eval env s i with
    | some (.list l), some (.int k) => if k < 0 then none else l[k.toNat]?
    | _, _ => none
  | .opaque _ => none
def evalArgs (env : Env) (s : Store) : List Expr → Option (List Val)
  | [] => some []
  | e :: es => match eval env s e, evalArgs env s es with
    | some v, some vs => some (v :: vs)
    | _, _ => none
end

inductive Flow where
  | next : Store → Flow
  | ret : List Val → Flow
  | brk : Store → Flow
  | cont : Store → Flow
  | stuck : Flow

/-- `for k, v := range items` given the meaning of one pass through the body -/
def rangeLoop (body : Store → Flow) (k v : String) : Nat → List Val → Store → Flow
  | _, [], s => .next s
  | i, x :: xs, s =>
    match sbindAll (([] : Frame) :: s) true [k, v] [.int i, x] with
    | none => .stuck
    | some s1 => match body s1 with
      | .next s2 => rangeLoop body k v (i + 1) xs (spop s2)
      | .cont s2 => rangeLoop body k v (i + 1) xs (spop s2)
      | .brk s2 => .next (spop s2)
      | .ret vs => .ret vs
      | .stuck => .stuck

mutual
def exec (env : Env) (s : Store) : Stmt → Flow
  | .ret es => match evalArgs env s es with
    | some vs => .ret (flatten vs)       -- `return f(x)` with a multi-valued f
    | none => .stuck
  | .ifs ini c t e =>
    match execBlock env (([] : Frame) :: s) ini with   -- scope of the if statement
    | .next s1 => (match eval env s1 c with
      | some (.bool true) => (match execBlock env (([] : Frame) :: s1) t with
        | .next s2 => .next (spop (spop s2))
        | .brk s2 => .brk (spop (spop s2))
        | .cont s2 => .cont (spop (spop s2))
        | f => f)
      | some (.bool false) => (match execBlock env (([] : Frame) :: s1) e with
        | .next s2 => .next (spop (spop s2))
        | .brk s2 => .brk (spop (spop s2))
        | .cont s2 => .cont (spop (spop s2))
        | f => f)
      | _ => .stuck)
    | _ => .stuck
  | .assign d ns es => match evalArgs env s es with
    | some vs => (match sbindAll s d ns (flatten vs) with     -- `a, b := f(x)`
      | some s' => .next s'
      | none => .stuck)
    | none => .stuck
  | .range k v e body => match eval env s e with
    | some (.list items) => rangeLoop (fun st => execBlock env st body) k v 0 items s
    | _ => .stuck
  | .brk => .brk s
  | .cont => .cont s
  | .expr e => match eval env s e with
    | some _ => .next s
    | none => .stuck
  | .opaque _ => .stuck
def execBlock (env : Env) (s : Store) : List Stmt → Flow
  | [] => .next s
  | st :: rest => match exec env s st with
    | .next s' => execBlock env s' rest
    | f => f
end

/-- a call: parameters bound in a fresh store; falling off the end returns nothing -/
def run (env : Env) (f : Func) (args : List Val) : Option (List Val) :=
  match sbindAll [[]] true f.params args with
  | none => none
  | some s => match execBlock { env with fname := f.name } s f.body with
    | .ret vs => some vs
    | .next _ => some []
    | _ => none

/-- the functions of one package, each given the meaning of the others: `sem prims fs n name args`
    is the result of calling `name` when calls may nest `n` deep (the call graph of the modelled
    packages has no cycle, so a fixed depth per function suffices) -/
def sem (prims : Prims) (fs : List Func) : Nat → String → List Val → Option Val
  | 0, _, _ => none
  | n + 1, name, args =>
    match fs.find? (fun f => f.name == name) with
    | some f => (run { fname := name, prims := prims, callee := sem prims fs n } f args).map pack
    | none => none

theorem sem_succ (prims : Prims) (fs : List Func) (n : Nat) (name : String) (args : List Val) :
    sem prims fs (n + 1) name args =
      match fs.find? (fun f => f.name == name) with
      | some f => (run { fname := name, prims := prims, callee := sem prims fs n } f args).map pack
      | none => none := rfl

end NotationCore.GoSem
