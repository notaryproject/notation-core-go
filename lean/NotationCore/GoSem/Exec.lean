import NotationCore.GoSem.Sem
/-!
  Running the interpreter on symbolic values.  `GoSem.Sem` decides control flow by `match`ing on
  `some (.bool true)` / `some (.bool false)`, on which `simp` is stuck as soon as the Boolean is a
  variable.  Here the same control structure gets names (`Flow.seq`, `Flow.cond`, `andThen`,
  `orElse`) whose equations leave an `if b then … else …` behind.  A tie proof then runs
  a function body once, top to bottom (`go_run`), and does its case analysis afterwards, on the
  small term that remains, instead of re-running the body in every case.  What still has to be
  split before the run is the *shape* of a value the code inspects: `nil` or an object, an empty or
  a non-empty list, `none` or `some`.
-/
namespace NotationCore.GoSem

namespace Flow

/-- the rest of a block after its first statement -/
def seq (env : Env) : Flow → List Stmt → Flow
  | .next s, rest => execBlock env s rest
  | f, _ => f

/-- leaving the two frames of an `if` statement (its own scope, the branch's block) -/
def leave : Flow → Flow
  | .next s => .next (spop (spop s))
  | .brk s => .brk (spop (spop s))
  | .cont s => .cont (spop (spop s))
  | f => f

/-- condition and branches of an `if` statement, after its init statement -/
def cond (env : Env) (c : Expr) (t e : List Stmt) : Flow → Flow
  | .next s => match eval env s c with
    | some (.bool b) => if b then (execBlock env (([] : Frame) :: s) t).leave else (execBlock env (([] : Frame) :: s) e).leave
    | _ => .stuck
  | _ => .stuck

/-- what a `range` loop does with the flow of its body at one element; `go` is the rest of the loop -/
def iterate (go : Store → Flow) : Flow → Flow
  | .next s => go (spop s)
  | .cont s => go (spop s)
  | .brk s => .next (spop s)
  | f => f

/-- what a function body hands back to its caller -/
def value : Flow → Option Val
  | .ret vs => some (pack vs)
  | .next _ => some (pack [])
  | _ => none

variable (env : Env) (s : Store) (vs : List Val) (rest : List Stmt) (f g : Flow) (p : Prop) [Decidable p]

@[simp] theorem seq_next : (Flow.next s).seq env rest = execBlock env s rest := rfl
@[simp] theorem seq_ret : (Flow.ret vs).seq env rest = .ret vs := rfl
@[simp] theorem seq_brk : (Flow.brk s).seq env rest = .brk s := rfl
@[simp] theorem seq_ite : (if p then f else g).seq env rest = if p then f.seq env rest else g.seq env rest :=
  apply_ite (seq env · rest) ..

@[simp] theorem leave_next : (Flow.next s).leave = .next (spop (spop s)) := rfl
@[simp] theorem leave_ret : (Flow.ret vs).leave = .ret vs := rfl
@[simp] theorem leave_brk : (Flow.brk s).leave = .brk (spop (spop s)) := rfl
@[simp] theorem leave_ite : (if p then f else g).leave = if p then f.leave else g.leave := apply_ite leave ..

@[simp] theorem cond_next (c : Expr) (t e : List Stmt) :
    (Flow.next s).cond env c t e
      = match eval env s c with
        | some (.bool b) => if b then (execBlock env (([] : Frame) :: s) t).leave else (execBlock env (([] : Frame) :: s) e).leave
        | _ => .stuck := rfl

variable (go : Store → Flow)
@[simp] theorem iterate_next : (Flow.next s).iterate go = go (spop s) := rfl
@[simp] theorem iterate_brk : (Flow.brk s).iterate go = .next (spop s) := rfl
@[simp] theorem iterate_ret : (Flow.ret vs).iterate go = .ret vs := rfl
@[simp] theorem iterate_ite : (if p then f else g).iterate go = if p then f.iterate go else g.iterate go :=
  apply_ite (iterate go) ..

@[simp] theorem value_ret (v : Val) : (Flow.ret [v]).value = some v := rfl
@[simp] theorem value_ret₂ (v w : Val) : (Flow.ret [v, w]).value = some (.tuple [v, w]) := rfl
@[simp] theorem value_ite : (if p then f else g).value = if p then f.value else g.value := apply_ite value ..

end Flow

/-- `a && b` from the values of both operands; the right one may have none where the left one decides -/
def andThen : Option Val → Option Val → Option Val
  | some (.bool a), r => if a then (match r with | some (.bool y) => some (.bool y) | _ => none) else some (.bool false)
  | _, _ => none

def orElse : Option Val → Option Val → Option Val
  | some (.bool a), r => if a then some (.bool true) else (match r with | some (.bool y) => some (.bool y) | _ => none)
  | _, _ => none

@[simp] theorem andThen_bool (a b : Bool) : andThen (some (.bool a)) (some (.bool b)) = some (.bool (a && b)) := by
  cases a <;> rfl
@[simp] theorem orElse_bool (a b : Bool) : orElse (some (.bool a)) (some (.bool b)) = some (.bool (a || b)) := by
  cases a <;> rfl
@[simp] theorem andThen_false (r : Option Val) : andThen (some (.bool false)) r = some (.bool false) := rfl
@[simp] theorem orElse_true (r : Option Val) : orElse (some (.bool true)) r = some (.bool true) := rfl

/-! ### `builtin`, equation by equation.  Unfolding it on a name it does not know makes `simp` refute
    every one of its patterns in turn; `builtin_none` asks for one membership test instead. -/

def builtinNames : List String :=
  ["Before", "After", "Equal", "IsZero", "bytes.Equal", "len", "append", "mklist", "mkobj", "slice"]

theorem builtin_none {name : String} (h : name ∉ builtinNames) (args : List Val) : builtin name args = none := by
  unfold builtin
  split <;> first | rfl | simp [builtinNames] at h

section builtins
variable (a b : Int) (l : List Val) (v : Val)
theorem builtin_before : builtin "Before" [.int a, .int b] = some (.bool (a < b)) := rfl
theorem builtin_after : builtin "After" [.int a, .int b] = some (.bool (a > b)) := rfl
theorem builtin_equal : builtin "Equal" [.int a, .int b] = some (.bool (decide (a = b))) := rfl
theorem builtin_isZero : builtin "IsZero" [.int a] = some (.bool (decide (a = -62135596800 * 1000000000))) := rfl
theorem builtin_bytesEqual : builtin "bytes.Equal" [.int a, .int b] = some (.bool (decide (a = b))) := rfl
theorem builtin_len : builtin "len" [.list l] = some (.int l.length) := rfl
theorem builtin_append : builtin "append" [.list l, v] = some (.list (l ++ [v])) := rfl
theorem builtin_mklist : builtin "mklist" l = some (.list l) := rfl
end builtins

/-! ### an `error` that one condition decides, as the code inspects it (`err != nil`, `return err`) -/
section
variable (p : Prop) [Decidable p] (f : String) (k : Nat) (w : List Val) (v : Val)
@[simp] theorem valEq_nilOrErr : valEq (if p then .nil else .err f k w) .nil = some (decide p) := by split <;> simp [*]
@[simp] theorem valEq_errOrNil : valEq (if p then .err f k w else .nil) .nil = some (!decide p) := by split <;> simp [*]
@[simp] theorem flatten_nilOrErr : flatten [if p then .nil else .err f k w] = [if p then .nil else .err f k w] := by split <;> rfl
@[simp] theorem flatten_errOrNil : flatten [if p then .err f k w else .nil] = [if p then .err f k w else .nil] := by split <;> rfl
theorem errOr_eq_nil : (if p then .err f k w else v) = .nil ↔ ¬p ∧ v = .nil := by split <;> simp [*]
end

/-- a `range` loop over the block `b`.  A name for `rangeLoop` at the closure `exec` builds, so that
    `simp` does not walk into the closure and run `b` on a store it knows nothing about.  The loop
    lemmas of `Tie/Code` are stated about `rangeLoop` at that closure, which is what the interpreter
    has, and proved about `loop` (`show`). -/
def loop (env : Env) (b : List Stmt) : String → String → Nat → List Val → Store → Flow :=
  rangeLoop (fun st => execBlock env st b)

variable (env : Env) (s : Store)

theorem loop_nil (b : List Stmt) (k v : String) (i : Nat) : loop env b k v i [] s = .next s := rfl

theorem loop_cons (b : List Stmt) (k v : String) (i : Nat) (x : Val) (xs : List Val) :
    loop env b k v i (x :: xs) s = match sbindAll (([] : Frame) :: s) true [k, v] [.int i, x] with
      | none => .stuck
      | some s1 => (execBlock env s1 b).iterate (loop env b k v (i + 1) xs) := by
  simp only [loop, rangeLoop]
  cases sbindAll (([] : Frame) :: s) true [k, v] [.int i, x] with
  | none => rfl
  | some s1 => simp only; cases execBlock env s1 b <;> rfl

theorem execBlock_nil : execBlock env s [] = .next s := by rw [execBlock]

theorem execBlock_cons (st : Stmt) (rest : List Stmt) :
    execBlock env s (st :: rest) = (exec env s st).seq env rest := by
  rw [execBlock]; cases exec env s st <;> rfl

theorem exec_ifs (ini : List Stmt) (c : Expr) (t e : List Stmt) :
    exec env s (.ifs ini c t e) = (execBlock env (([] : Frame) :: s) ini).cond env c t e := by
  rw [exec]
  cases execBlock env (([] : Frame) :: s) ini <;> try rfl
  rename_i s1
  simp only [Flow.cond]
  cases eval env s1 c with
  | none => rfl
  | some v =>
    cases v <;> try rfl
    rename_i b
    cases b
    · simp only; cases execBlock env (([] : Frame) :: s1) e <;> rfl
    · simp only; cases execBlock env (([] : Frame) :: s1) t <;> rfl

theorem exec_range (k v : String) (e : Expr) (b : List Stmt) :
    exec env s (.range k v e b) = match eval env s e with
      | some (.list items) => loop env b k v 0 items s
      | _ => .stuck := by
  rw [exec]; rfl

theorem eval_and (a b : Expr) : eval env s (.bin .and a b) = andThen (eval env s a) (eval env s b) := by
  rw [eval]
  cases eval env s a with
  | none => rfl
  | some v =>
    cases v <;> try rfl
    rename_i x
    cases x <;> simp only [andThen] <;> rfl

theorem eval_or (a b : Expr) : eval env s (.bin .or a b) = orElse (eval env s a) (eval env s b) := by
  rw [eval]
  cases eval env s a with
  | none => rfl
  | some v =>
    cases v <;> try rfl
    rename_i x
    cases x <;> simp only [orElse] <;> rfl

/-- A call of a function of the package, once it is looked up.  The lookup fact `h` is best proved by
    `simp [funcs, f]` (by `rfl` the elaborator unfolds the comparison of two string literals, which is
    slow); a package with many functions compares its names once (`find?_name_of_mem`). -/
theorem sem_find {prims : Prims} {fs : List Func} {name : String} {f : Func} (n : Nat) (args : List Val)
    (h : fs.find? (fun f => f.name == name) = some f) :
    sem prims fs (n + 1) name args = match sbindAll [[]] true f.params args with
      | none => none
      | some s => (execBlock ⟨f.name, prims, sem prims fs n⟩ s f.body).value := by
  simp only [sem_succ, h, run]
  cases sbindAll [[]] true f.params args with
  | none => rfl
  | some s => simp only; cases execBlock ⟨f.name, prims, sem prims fs n⟩ s f.body <;> rfl

/-- where no two functions share a name, the lookup finds each function under its own -/
theorem find?_name_of_mem {fs : List Func} (hn : (fs.map (·.name)).Nodup) {f : Func} (hf : f ∈ fs) :
    fs.find? (fun g => g.name == f.name) = some f := by
  induction fs with
  | nil => cases hf
  | cons g r ih =>
    rw [List.map_cons, List.nodup_cons] at hn
    rw [List.find?_cons]
    rcases List.mem_cons.mp hf with rfl | hr
    · simp
    · have : (g.name == f.name) = false := beq_false_of_ne fun h => hn.1 (h ▸ List.mem_map_of_mem hr)
      rw [this]; exact ih hn.2 hr

/-- One symbolic run: the equations above first (`↓`, before `simp` looks into the syntax tree), the
    interpreter's own equations for everything else.  Leaves the flow, or the value returned, as
    nested `if`s over the Booleans the code looked at.  (`Int.natCast_inj`: the models count and name
    things in `Nat`, `Val.int` holds an `Int`.) -/
macro "go_run" "[" ts:Lean.Parser.Tactic.simpLemma,* "]" : tactic =>
  `(tactic| simp [↓execBlock_cons, ↓execBlock_nil, ↓exec_ifs, ↓exec_range, ↓eval_and, ↓eval_or, loop_nil, loop_cons, exec, eval, evalArgs,
      sbindAll, sbind, sdefine, sassign, fset, sget, fget, spop, binop, builtin_none, builtinNames, builtin_before, builtin_after,
      builtin_equal, builtin_isZero, builtin_bytesEqual, builtin_len, builtin_append, builtin_mklist,
      Int.natCast_inj, $ts,*])

end NotationCore.GoSem
