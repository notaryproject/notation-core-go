import NotationCore.Props.C12
/-!
  Decidable monitors of the revocation properties, evaluated by the driver on what the
  **implementation** returned (result vector + request log).  `none` = property holds on this
  observation, `some clause` = the named clause is violated — that case is then a concrete failing
  input on the real code.

  Each monitor comes with a theorem `…_model` stating that the model's own output passes it, for
  every input: together with the proved properties this makes the monitor a consequence of the
  specification (it cannot raise an alarm on an implementation that agrees with the model).
-/
namespace NotationCore.Monitor
open Revocation Props

def ocspOk (e : Ocsp.Env) (urls : List Url) (st : Time) : Bool :=
  urls.any fun u => (Ocsp.checkStatusFromServer e st u).result == .ok
def ocspRev (e : Ocsp.Env) (urls : List Url) (st : Time) : Bool :=
  urls.any fun u => (Ocsp.checkStatusFromServer e st u).result == .revoked
def crlAllOk (e : Crl.Env) (c : Crl.RCert) (st : Time) : Bool :=
  !c.crlDPs.isEmpty && c.crlDPs.all fun u => Crl.checkDP e c st u == .ok
def crlRev (e : Crl.Env) (c : Crl.RCert) (st : Time) : Bool :=
  c.crlDPs.any fun u => Crl.checkDP e c st u == .revoked

theorem ocspOk_iff (e : Ocsp.Env) (urls : List Url) (st : Time) :
    ocspOk e urls st = true ↔ ∃ u ∈ urls, OcspEvidence e st u := by
  unfold ocspOk
  simp only [List.any_eq_true, beq_iff_eq, C04_server_ok_iff]

theorem ocspRev_iff (e : Ocsp.Env) (urls : List Url) (st : Time) :
    ocspRev e urls st = true ↔ ∃ u ∈ urls, OcspRevokes e st u := by
  unfold ocspRev
  simp only [List.any_eq_true, beq_iff_eq, C04_server_revoked_iff]

theorem crlAllOk_iff (e : Crl.Env) (c : Crl.RCert) (st : Time) :
    crlAllOk e c st = true ↔ (c.crlDPs ≠ [] ∧ ∀ u ∈ c.crlDPs, DPGood e c st u) := by
  unfold crlAllOk
  simp [checkDP_ok_iff]

theorem crlRev_iff (e : Crl.Env) (c : Crl.RCert) (st : Time) :
    crlRev e c st = true ↔ ∃ u ∈ c.crlDPs, DPRevokes e c st u := by
  unfold crlRev
  simp only [List.any_eq_true, beq_iff_eq, checkDP_revoked_iff]

/-! ### C06 — fail closed -/
def c06 (env : Env) (c : Cert) (st : Time) (r : CertResult) : Option String :=
  if r.result == .ok && !(ocspOk env.ocsp c.ocsp st || crlAllOk env.crl c.toCrl st) then some "ok_without_evidence"
  else if r.result == .nonRevokable && (!c.ocsp.isEmpty || !c.crlDPs.isEmpty) then some "nonrevokable_with_source"
  else if r.result == .revoked && !(ocspRev env.ocsp c.ocsp st || crlRev env.crl c.toCrl st) then some "revoked_without_evidence"
  else none

theorem c06_of_justified {env : Env} {c : Cert} {st : Time} {r : CertResult}
    (j : Justified env c st r.result) : c06 env c st r = none := by
  -- the three clauses are the rows OK, NonRevokable, Revoked of `Justified`
  unfold c06
  cases hr : r.result <;> rw [hr] at j
  · simp
  · have := j.imp (ocspOk_iff ..).mpr (crlAllOk_iff env.crl c.toCrl st).mpr
    simp [Bool.or_eq_true _ _ |>.mpr this]
  · simp [j.1, j.2]
  · have := j.imp (ocspRev_iff ..).mpr (crlRev_iff env.crl c.toCrl st).mpr
    simp [Bool.or_eq_true _ _ |>.mpr this]

theorem c06_model (env : Env) (c : Cert) (st : Time) : c06 env c st (certCheck env c st) = none :=
  c06_of_justified (certCheck_justified env c st)

/-! ### C04 — OCSP alone (certificate without distribution points, or the standalone entry point) -/

/-- first decisive responder, if any -/
def firstDecisive (e : Ocsp.Env) (st : Time) : List Url → Option ServerResult
  | [] => none
  | u :: us =>
    let s := Ocsp.checkStatusFromServer e st u
    if Ocsp.decisive s then some s else firstDecisive e st us

def c04 (e : Ocsp.Env) (urls : List Url) (st : Time) (r : CertResult) : Option String :=
  if r.result == .ok && !ocspOk e urls st then some "ok_without_authentic_current_good"
  else if r.result == .revoked && !ocspRev e urls st then some "revoked_without_authentic_revoked"
  else if (match firstDecisive e st urls with | some s => s.result == Result.revoked && r.result != Result.revoked | none => false)
    then some "revoked_answer_not_reported"
  else if r.result == Result.nonRevokable && !urls.isEmpty then some "nonrevokable_with_responder"
  else none

theorem firstDecisive_eq (e : Ocsp.Env) (st : Time) (urls : List Url) :
    firstDecisive e st urls =
      (urls.find? fun u => Ocsp.decisive (Ocsp.checkStatusFromServer e st u)).map (Ocsp.checkStatusFromServer e st) := by
  induction urls with
  | nil => rfl
  | cons u us ih => rw [firstDecisive, List.find?_cons, ih]; cases Ocsp.decisive _ <;> rfl

theorem ocsp_result_of_firstDecisive (e : Ocsp.Env) (st : Time) (urls : List Url) (hne : urls ≠ []) :
    (Ocsp.certCheckStatus e urls st).result =
      match firstDecisive e st urls with
      | some s => s.result
      | none => .unknown := by
  rw [ocsp_certCheckStatus_eq e urls st hne, firstDecisive_eq]
  cases urls.find? _ <;> rfl

theorem c04_model (e : Ocsp.Env) (urls : List Url) (st : Time) :
    c04 e urls st (Ocsp.certCheckStatus e urls st) = none := by
  unfold c04
  by_cases hne : urls = []
  · subst hne; rfl
  -- third clause: the verdict is the first decisive answer
  have h3 : (match firstDecisive e st urls with
      | some s => s.result == .revoked && (Ocsp.certCheckStatus e urls st).result != .revoked
      | none => false) = false := by
    rw [ocsp_result_of_firstDecisive e st urls hne]
    cases firstDecisive e st urls with
    | none => rfl
    | some s => cases hs : s.result <;> simp [hs]
  -- the others: rows of `ocsp_outcome`
  simp only [h3]
  rcases ocsp_outcome e urls st hne with ⟨h, g⟩ | ⟨h, g⟩ | h
  · simp [h, (ocspOk_iff e urls st).mpr g]
  · simp [h, (ocspRev_iff e urls st).mpr g]
  · simp [h]

/-! ### C05 — CRL alone (certificate without responders) -/
def c05 (e : Crl.Env) (c : Crl.RCert) (st : Time) (r : CertResult) : Option String :=
  if c.crlDPs.isEmpty then none
  else if (r.result == .ok) != crlAllOk e c st then
    (if r.result == .ok then some "ok_although_some_distribution_point_is_not_good" else some "not_ok_although_all_points_good")
  else if r.result == .revoked && !crlRev e c st then some "revoked_without_authentic_listing"
  else if r.result == .nonRevokable then some "nonrevokable_with_distribution_point"
  else if r.result == .ok && r.servers.map (·.server) != c.crlDPs then some "ok_entries_not_one_per_point"
  else if r.result != .ok && r.servers.length != 1 then some "non_ok_must_have_single_entry"
  else none

theorem c05_model (e : Crl.Env) (c : Crl.RCert) (st : Time) : c05 e c st (Crl.certCheckStatus e c st) = none := by
  unfold c05
  by_cases hne : c.crlDPs = []
  · simp [hne]
  rcases loop_cases (crl_loop e c st hne) with ⟨h, hall⟩ | ⟨_, u, _, hus, _, hng, hstop⟩
  · simp [h, hne, (crlAllOk_iff e c st).mpr ⟨hne, hall⟩, Function.comp_def]
  · have hu : u ∈ c.crlDPs := hus ▸ List.mem_append_cons_self
    have hall : crlAllOk e c st = false := Bool.eq_false_iff.mpr fun g => hng (((crlAllOk_iff e c st).mp g).2 u hu)
    rcases hstop with ⟨h, hr⟩ | ⟨h, _⟩
    · simp [h, hne, hall, (crlRev_iff e c st).mpr ⟨u, hu, hr⟩, Crl.single]
    · simp [h, hne, hall, Crl.single]

open Proofs.Crl

/-! ### C10 — CRL entries -/
def holdStrictlyLatest (C : List Crl.Entry) : Bool :=
  C.any fun h => h.reason == Generated.reasonHold &&
    C.all fun r => r.reason == Generated.reasonHold || decide (r.revTime < h.revTime)

def everyHoldEarlier (C : List Crl.Entry) : Bool :=
  C.all fun h => h.reason != Generated.reasonHold ||
    C.any fun r => r.reason != Generated.reasonHold && decide (h.revTime < r.revTime)

def c10 (serial : Int) (st : Time) (es : List Crl.Entry) (v : Crl.EntryVerdict) : Option String :=
  let M := matching serial es
  let C := counting serial st es
  if M.any (·.badExt) then
    if v == .ok then some "matching_entry_with_unknown_critical_extension_but_ok"
    else if v == .revoked && !(C.any fun e => !e.badExt && !Crl.isTemp e.reason) then
      some "critical_extension_and_revoked_without_a_revoking_entry"
    else none
  else if C.any (fun e => !Crl.isTemp e.reason) then
    (if v == .revoked then none else some "counting_permanent_entry_not_revoked")
  else if holdStrictlyLatest C then (if v == .revoked then none else some "latest_entry_is_hold_but_not_revoked")
  else if everyHoldEarlier C then (if v == .ok then none else some "hold_removed_or_nothing_counts_but_not_ok")
  else (if v == .err then some "error_without_bad_extension" else none)

theorem holdStrictlyLatest_iff (C : List Crl.Entry) :
    holdStrictlyLatest C = true ↔ ∃ h ∈ C, h.reason = Generated.reasonHold ∧
      ∀ r ∈ C, r.reason ≠ Generated.reasonHold → r.revTime < h.revTime := by
  simp [holdStrictlyLatest, Decidable.or_iff_not_imp_left]

theorem everyHoldEarlier_iff (C : List Crl.Entry) :
    everyHoldEarlier C = true ↔ ∀ h ∈ C, h.reason = Generated.reasonHold →
      ∃ r ∈ C, r.reason ≠ Generated.reasonHold ∧ h.revTime < r.revTime := by
  simp [everyHoldEarlier, ← Decidable.imp_iff_not_or]

theorem c10_model (serial : Int) (st : Time) (es : List Crl.Entry) :
    c10 serial st es (Crl.checkRevocation serial st es) = none := by
  unfold c10
  rcases checkRevocation_cases serial st es with ⟨hv, hbad⟩ | ⟨hv, e, he, hg, hp⟩ | ⟨hv, hgood, htemp⟩
  · have : (matching serial es).any (·.badExt) = true := by simpa using hbad
    simp [this, hv]
  · have h1 : ((counting serial st es).any fun e => !e.badExt && !Crl.isTemp e.reason) = true := by
      simpa using ⟨e, he, hg, hp⟩
    have h2 : ((counting serial st es).any fun e => !Crl.isTemp e.reason) = true := by simpa using ⟨e, he, hp⟩
    simp [hv, h1, h2]
  · have h1 : (matching serial es).any (·.badExt) = false := by simpa using hgood
    have h2 : ((counting serial st es).any fun e => !Crl.isTemp e.reason) = false := by simpa using htemp
    simp only [h1, h2, Bool.false_eq_true, if_false]
    by_cases hh : holdStrictlyLatest (counting serial st es) = true
    · simp [hh, C10_temporary_hold serial st es hgood htemp ((holdStrictlyLatest_iff _).mp hh)]
    by_cases hr : everyHoldEarlier (counting serial st es) = true
    · simp [hh, hr, C10_temporary_remove serial st es hgood htemp ((everyHoldEarlier_iff _).mp hr)]
    -- a tie: either answer, but never an error
    rw [hv]
    cases lat none (counting serial st es) with
    | none => simp [hh, hr, verdictOfLatest]
    | some l => by_cases hl : l.reason = Generated.reasonHold <;> simp [hh, hr, verdictOfLatest, hl]

/-! ### C11 — OCSP first, CRL exactly when OCSP is absent or inconclusive -/

def isOcspContact : Contact → Bool
  | .ocsp _ => true
  | .crl _ => false

/-- OCSP contacts, then CRL contacts -/
def orderedTrace : List Contact → Bool
  | [] => true
  | .ocsp _ :: t => orderedTrace t
  | .crl _ :: t => t.all (fun c => !isOcspContact c)

def ocspFinal (e : Ocsp.Env) (st : Time) (urls : List Url) : Option Result :=
  match firstDecisive e st urls with
  | some s => if s.result == .ok || s.result == .revoked then some s.result else none
  | none => none

def c11 (env : Revocation.Env) (c : Cert) (st : Time) (r : CertResult) (trace : List Contact) : Option String :=
  if !orderedTrace trace then some "crl_contacted_before_ocsp"
  else if c.ocsp.isEmpty && c.crlDPs.isEmpty then
    (if r.result == .nonRevokable && trace.isEmpty then none else some "no_source_must_be_nonrevokable")
  else if c.ocsp.isEmpty then
    (if r.method == .crl && !trace.any isOcspContact then none else some "no_responder_must_use_crl")
  else match ocspFinal env.ocsp st c.ocsp with
    | some res =>
      if r.method != .ocsp then some "final_ocsp_answer_relabelled"
      else if r.result != res then some "final_ocsp_answer_changed"
      else if trace.any isCrlContact then some "crl_fetched_after_final_ocsp_answer"
      else none
    | none =>
      if c.crlDPs.isEmpty then
        (if r.method == .ocsp && r.result == .unknown && !trace.any isCrlContact then none else some "inconclusive_ocsp_without_crl")
      else
        if r.method != .ocspFallbackCrl then some "fallback_not_labelled"
        else if !trace.any isCrlContact then some "crl_not_consulted_after_inconclusive_ocsp"
        else none

theorem ocspFinal_eq (e : Ocsp.Env) (st : Time) (urls : List Url) (hne : urls ≠ []) :
    ocspFinal e st urls =
      if (Ocsp.certCheckStatus e urls st).result == .ok || (Ocsp.certCheckStatus e urls st).result == .revoked
      then some (Ocsp.certCheckStatus e urls st).result else none := by
  rw [ocspFinal, ocsp_result_of_firstDecisive e st urls hne]
  cases firstDecisive e st urls <;> rfl

theorem orderedTrace_append (os ks : List Url) :
    orderedTrace (os.map Contact.ocsp ++ ks.map Contact.crl) = true := by
  induction os with
  | nil => cases ks <;> simp [orderedTrace, isOcspContact]
  | cons o os ih => simpa [orderedTrace] using ih

theorem crl_contacted_ne_nil (e : Crl.Env) (c : Crl.RCert) (st : Time) (us : List Url) (hne : us ≠ []) :
    Crl.contacted e c st us ≠ [] := by
  cases us with
  | nil => exact absurd rfl hne
  | cons u us => simp only [Crl.contacted]; split <;> simp

theorem c11_model (env : Revocation.Env) (c : Cert) (st : Time) :
    c11 env c st (certCheck env c st) (certTrace env c st) = none := by
  obtain ⟨os, ks, htr, _, _⟩ := C11_ocsp_first env c st
  have hord : orderedTrace (certTrace env c st) = true := htr ▸ orderedTrace_append os ks
  refine certCheck_cases env c st (P := fun r t => orderedTrace t = true → c11 env c st r t = none)
    ?_ ?_ ?_ ?_ hord <;> unfold c11
  · intro ho hk _; simp [ho, hk, orderedTrace, nonRevokable]
  · intro ho hk hord
    simp [hord, ho, hk, (crlShape_of env.crl c.toCrl st hk).2, isOcspContact]
  · intro ho h hord
    have hm := (ocspShape_of env.ocsp c.ocsp st ho).2
    rw [ocspFinal_eq env.ocsp st c.ocsp ho]
    rcases ocsp_result_cases env.ocsp c.ocsp st ho with hr | hr | hr
    · simp [hord, ho, hm, hr, isCrlContact]
    · simp [hord, ho, hm, hr, isCrlContact]
    · simp [hord, ho, hm, hr, isCrlContact, h.resolve_left (· hr)]
  · intro ho hr hk hord
    have hany : ((Crl.contacted env.crl c.toCrl st c.crlDPs).map Contact.crl).any isCrlContact = true := by
      cases hc : Crl.contacted env.crl c.toCrl st c.crlDPs with
      | nil => exact absurd hc (crl_contacted_ne_nil env.crl c.toCrl st c.crlDPs hk)
      | cons k ks => simp [isCrlContact]
    simp [hord, ho, hk, hr, ocspFinal_eq env.ocsp st c.ocsp ho, hany]

/-! ### C12 — complete, positional, consistent -/
def ocspShapeB (urls : List Url) (res : Result) (os : List ServerResult) : Bool :=
  (os.length == 1 && os.all (fun s => res == s.result && urls.contains s.server && Ocsp.decisive s)) ||
  (res == .unknown && os.map (·.server) == urls && os.all (fun s => s.result == .unknown))

def crlShapeB (dps : List Url) (res : Result) (ks : List ServerResult) : Bool :=
  (res == .ok && ks.map (·.server) == dps && ks.all (fun s => s.result == .ok)) ||
  ((res == .revoked || res == .unknown) && ks.length == 1 && ks.all (fun s => s.result == res && dps.contains s.server))

theorem ocspShapeB_of {urls : List Url} {res : Result} {os : List ServerResult} (h : OcspShape urls res os) :
    ocspShapeB urls res os = true := by
  unfold ocspShapeB
  rcases h with ⟨s, h1, h2, h3, h4⟩ | ⟨h1, h2, h3⟩
  · subst h1; simp [h2, h3, h4]
  · subst h1
    simp only [beq_self_eq_true, h2, Bool.true_and, Bool.or_eq_true, List.all_eq_true, beq_iff_eq]
    right; exact h3

theorem crlShapeB_of {dps : List Url} {res : Result} {ks : List ServerResult} (h : CrlShape dps res ks) :
    crlShapeB dps res ks = true := by
  unfold crlShapeB
  rcases h with ⟨h1, h2, h3⟩ | ⟨h1, s, h2, h3, h4⟩
  · subst h1
    simp only [beq_self_eq_true, h2, Bool.true_and, Bool.or_eq_true, List.all_eq_true, beq_iff_eq]
    left; exact h3
  · subst h2
    rcases h1 with h1 | h1 <;> simp [h1, h3, h4]

/-- per-certificate consistency of one result against the certificate's own URLs -/
def c12cert (c : Cert) (r : CertResult) : Option String :=
  if r.result == .ok && r.servers.any (fun s => s.result == .revoked) then some "ok_with_revoked_entry"
  else if !(r.servers.all fun s => s.server == "" || (c.ocsp ++ c.crlDPs).contains s.server) then some "server_not_of_this_certificate"
  else match r.method with
    | .ocsp => if ocspShapeB c.ocsp r.result r.servers then none else some "ocsp_result_shape"
    | .crl => if crlShapeB c.crlDPs r.result r.servers then none else some "crl_result_shape"
    | .ocspFallbackCrl =>
      if (List.range (r.servers.length + 1)).any (fun i =>
          ocspShapeB c.ocsp .unknown (r.servers.take i) && crlShapeB c.crlDPs r.result (r.servers.drop i))
      then none else some "fallback_result_shape"
    | .unknown => if r == nonRevokable && c.ocsp.isEmpty && c.crlDPs.isEmpty then none else some "method_unknown_only_without_sources"

theorem c12cert_of {c : Cert} {r : CertResult} (hc : Consistent c r) : c12cert c r = none := by
  unfold c12cert
  have h1 : (r.result == .ok && r.servers.any (fun s => s.result == .revoked)) = false := by
    simp only [Bool.and_eq_false_imp, beq_iff_eq, List.any_eq_false]
    exact fun hok s hs hr => by rw [(hc.entry s hs).2 hr] at hok; cases hok
  have h2 : (r.servers.all fun s => s.server == "" || (c.ocsp ++ c.crlDPs).contains s.server) = true := by
    simpa using fun s hs => (hc.entry s hs).1
  simp only [h1, h2, Bool.false_eq_true, if_false, Bool.not_true]
  obtain ⟨c1, c2, c3, c4⟩ := hc
  cases hm : r.method with
  | ocsp => simp [ocspShapeB_of (c1 hm)]
  | crl => simp [crlShapeB_of (c2 hm)]
  | ocspFallbackCrl =>
    -- the split point is the length of the OCSP part
    obtain ⟨os, ks, e1, e2, e3⟩ := c3 hm
    have : (List.range (r.servers.length + 1)).any (fun i =>
        ocspShapeB c.ocsp .unknown (r.servers.take i) && crlShapeB c.crlDPs r.result (r.servers.drop i)) = true :=
      List.any_eq_true.mpr ⟨os.length, by rw [List.mem_range, e1]; simp; omega,
        by rw [e1]; simp [ocspShapeB_of e2, crlShapeB_of e3]⟩
    simp [this]
  | unknown => simp [c4 hm]

theorem c12cert_model (env : Revocation.Env) (c : Cert) (st : Time) : c12cert c (certCheck env c st) = none :=
  c12cert_of (certCheck_consistent env c st)

/-- whole result vector: one result per certificate, root NonRevokable, each slot consistent -/
def c12 (cs : List Cert) (rs : List CertResult) : Option String :=
  if rs.length != cs.length + 1 then some "not_one_result_per_certificate"
  else if rs[cs.length]?.map (·.result) != some .nonRevokable then some "root_not_nonrevokable"
  else (List.zip cs rs).findSome? (fun p => c12cert p.1 p.2)

theorem c12_model (n : Nat) (cs : List (Revocation.Env × Cert)) (st : Time) (rs : List CertResult)
    (h : validate n true cs st = .ok rs) : c12 (cs.map (·.2)) rs = none := by
  obtain ⟨h1, h2, _⟩ := C12_complete n cs st rs h
  have h3 : (nonRevokable.result) = Result.nonRevokable := rfl
  simp only [c12, List.length_map, h1, h2, h3, Option.map_some, bne_self_eq_false, Bool.false_eq_true, if_false]
  -- every certificate sits beside its own check (`zip_results`), which passes `c12cert`
  rw [validate_ok h, zip_results, List.findSome?_map, List.findSome?_eq_none_iff]
  exact fun p _ => c12cert_model p.1 p.2 st

end NotationCore.Monitor
