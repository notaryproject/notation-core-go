import NotationCore.Spec.EnvMonitors
import NotationCore.Tie.Constants
/-!
  The envelope-read monitors are not stricter than the model: evaluated on the *model's own*
  output they report nothing. (An implementation that agrees with the model can therefore never
  trip them — no false alarm by construction, on explored and unexplored inputs alike.)
-/
namespace NotationCore.EnvMonitor
open Base

/-! the specification's lists are the regenerated tables (on the tree where `Tie.Constants` checks) -/
theorem jwsSpecHeaders_eq : jwsSpecHeaders = Generated.jwsHeaderKeys := Tie.jws_header_keys.symm
theorem coseSpecIntLabels_eq : coseSpecIntLabels = Generated.coseSystemIntLabels := Tie.cose_system_labels.1.symm
theorem coseSpecTextLabels_eq : coseSpecTextLabels = Generated.coseSystemTextLabels := Tie.cose_system_labels.2.symm

theorem jwsExtMembersSpec_eq (ms : List Jws.Member) : jwsExtMembersSpec ms = Jws.extMembers ms := by
  unfold jwsExtMembersSpec
  rfl

theorem jwsExtAttrsSpec_eq (ms : List Jws.Member) (h : Jws.Hdr) : jwsExtAttrsSpec ms h = Jws.extAttrsOf ms h := by
  unfold jwsExtAttrsSpec Jws.extAttrsOf
  rw [jwsExtMembersSpec_eq]

theorem coseIsSpecLabel_eq (l : Cose.Label) : coseIsSpecLabel l = Cose.isSystem l := by
  cases l <;> simp [coseIsSpecLabel, Cose.isSystem, coseSpecIntLabels_eq, coseSpecTextLabels_eq]

theorem coseExtAttrsSpec_eq (e : Cose.Env) : coseExtAttrsSpec e = Cose.extAttrsOf e := by
  unfold coseExtAttrsSpec Cose.extAttrsOf
  simp only [coseIsSpecLabel_eq]

theorem any_self {α} (l : List α) (p : α → α → Bool) (hp : ∀ a, p a a = true) :
    l.all (fun g => l.any (fun x => p x g)) = true := by
  apply List.all_eq_true.mpr
  intro g hg
  exact List.any_eq_true.mpr ⟨g, hg, hp g⟩

theorem attrsRules_refl (l : List Attr) : attrsRules l l = none := by
  unfold attrsRules
  have h1 := any_self l (fun x g => x.key == g.key) (fun a => by simp)
  have h2 := any_self l (fun x g => x.key == g.key && x.critical == g.critical) (fun a => by simp)
  have h3 := any_self l (fun x g => x.key == g.key && x.value == g.value) (fun a => by simp)
  simp only [bne_self_eq_false, h1, h2, h3, Bool.not_true, Bool.or_self, Bool.false_eq_true, if_false]

theorem jws_critAll {e : Jws.Env} {c : Content} {ms : List Jws.Member} {h : Jws.Hdr} (hv : Jws.content e = .val c)
    (a1 : Jws.membersOf e.prot = some ms) (a2 : Jws.decodeHdr ms {} = some h) :
    (h.crit.all fun l => (ms.map (·.key)).contains l) = true := by
  obtain ⟨ms', h', b1, b2, hpres⟩ := Props.crit_present_of_content e c hv
  obtain ⟨rfl, rfl⟩ := Proofs.Jws.decoded_unique a1 a2 b1 b2
  exact List.all_eq_true.mpr fun l hl => by simpa using hpres l hl

/-- **C13 monitor, JWS**: the content the model returns passes (when the harness's exact value
    tokens are the decoded ones — where they are not, Go's float64 decoding lost digits: the known
    finding F3b) -/
theorem c13_jws_model (e : Jws.Env) (ci : ChainInfo) (via : Bool) (c : Content) (exact : Jws.Member → String)
    (hexact : ∀ m, exact m = m.decoded) (hv : Jws.content e = .val c) :
    jws "C13" e exact ci via c = none := by
  obtain ⟨ms, h, alg, r, rfl⟩ := (Proofs.Jws.content_eq_val_iff e c).mp hv
  have hexp : jwsExpectedAttrs ms h exact = Jws.extAttrsOf ms h := by
    unfold jwsExpectedAttrs Jws.extAttrsOf
    exact List.map_congr_left fun m _ => by rw [hexact]
  have hext : (Jws.contentOf e ms h alg).extAttrs = Jws.extAttrsOf ms h := rfl
  simp only [jws, jwsDecoded, r.members, r.decodes, Option.map_some, hext, jws_critAll hv r.members r.decodes,
    hexp, attrsRules_refl, Bool.not_true, Bool.false_eq_true, if_false]
  split
  next hany =>
    -- no attribute carries a specification name: attributes come from `extMembers`
    obtain ⟨a, ha, hk⟩ := List.any_eq_true.mp hany
    obtain ⟨m, hm, rfl⟩ := List.mem_map.mp ha
    simp [jwsSpecHeaders_eq, ((Proofs.Jws.mem_extMembers ms m).mp hm).1] at hk
  · rfl

theorem c13_cose_model (e : Cose.Env) (ci : ChainInfo) (via : Bool) (c : Content)
    (hwf : ∀ l ∈ Cose.critLabels e.prot, (Cose.get e.prot l).isSome = true)
    (hv : Cose.content e = .val c) :
    cose "C13" e ci via c = none := by
  obtain ⟨cty, scheme, alg, st, ex, _, rfl⟩ := (Proofs.Envelope.cose_content_eq_val_iff e c).mp hv
  have hext : (Cose.contentOf e cty scheme alg st ex).extAttrs = Cose.extAttrsOf e := rfl
  simp only [cose, hext, List.all_eq_true.mpr hwf, coseExtAttrsSpec_eq, attrsRules_refl, Bool.not_true,
    Bool.false_eq_true, if_false]
  split
  next hany =>
    -- no attribute carries a system label: attributes come from the entries that `isSystem` rejects
    obtain ⟨a, ha, hk⟩ := List.any_eq_true.mp hany
    obtain ⟨en, hen, rfl⟩ := List.mem_map.mp ha
    have hns := (List.mem_filter.mp hen).2
    rw [← coseIsSpecLabel_eq] at hns
    cases hl : en.label <;> simp [coseIsSpecLabel, hl, Cose.toAKey] at hns hk <;> simp [hns] at hk
  · rfl

open Algorithm Props Proofs.Envelope

theorem baseRules_pass (ci : ChainInfo) (c : Content) (h : validateEnvelopeContent ci c = true) :
    baseRules ci c = none := by
  obtain ⟨h1, h2, t1, t2, hconf, leaf, rest, hc, hk⟩ := baseRules_of ci c h
  have hacc : Chain.accepted (Chain.validateCodeSigning ci.sigF ci.sigSelfF (leaf :: rest) none) = true :=
    hc ▸ (accepted_codeSigning ..).mpr hconf
  have hex : (!isZeroT c.expiry && !(decide (c.signingTime < c.expiry))) = false := by
    rcases t2 with hz | hlt
    · simp [isZeroT, hz]
    · simp [hlt]
  have e1 : (c.payloadLen == 0) = false := beq_false_of_ne h1
  have e2 : (c.sigLen == 0) = false := beq_false_of_ne h2
  have e3 : isZeroT c.signingTime = false := beq_false_of_ne t1
  simp only [baseRules, e1, e2, e3, hex, hacc, hc, hk, Bool.false_eq_true, if_false, Bool.not_true, beq_self_eq_true, if_true]

theorem c07_jws_model (e : Jws.Env) (ci : ChainInfo) (via : Bool) (c : Content) (exact : Jws.Member → String)
    (hv : wrapRead false ci (Jws.content e) = .val c) :
    jws "C07" e exact ci via c = none := by
  obtain ⟨_, hinner, hval⟩ := (wrapRead_eq_val_iff ..).mp hv
  obtain ⟨_, ms, h, a1, a2, hsch, k1, k2, k3, _⟩ := C07_sound_jws e ci c hv
  have hs : jwsSchemeRules h c = none := by
    unfold jwsSchemeRules
    rcases hsch with ⟨s1, s2, s3⟩ | ⟨s1, s2, s3⟩
    · simp [s1, s2, s3]
    · simp [s1, s2, s3, Proofs.Jws.schemeAuthority_ne_x509]
  have hc : jwsCritRules ms h c = none := by
    have c2 : c.scheme = schemeAuthority → h.crit.contains Jws.kAuthSigningTime = true := fun ha => by simpa using k2 ha
    have c3 : isZeroT c.expiry = false → h.crit.contains Jws.kExpiry = true := fun hz => by
      simpa using k3 (by simpa [isZeroT] using hz)
    have c4 := jws_critAll hinner a1 a2
    unfold jwsCritRules
    rw [if_neg (by simpa using k1), if_neg (by simpa using c2), if_neg (by simpa using c3), if_neg (by rw [c4]; decide)]
  simp [jws, jwsDecoded, baseRules_pass ci c hval, a1, a2, hs, hc]

/-- what go-cose's `UnmarshalCBOR` (a primitive of the model) guarantees about a protected header
    that decoded: every label listed in `crit` is a label of the header -/
def CoseCritPresent (e : Cose.Env) : Prop :=
  ∀ l ∈ Cose.critLabels e.prot, (Cose.get e.prot l).isSome = true

theorem coseSchemeExpiry_pass (e : Cose.Env) (ci : ChainInfo) (c : Content)
    (hv : wrapRead false ci (Cose.content e) = .val c) :
    coseSchemeRules e c = none ∧ coseExpiryRules e c = none := by
  obtain ⟨_, hst, hsch, hex1, hex2, _⟩ := C07_sound_cose e ci c hv
  constructor
  · unfold coseSchemeRules
    rcases hst with ⟨s1, s2⟩ | ⟨s1, s2⟩
    · rw [s1] at hsch; simp [hsch, s1, s2]
    · rw [s1] at hsch; simp [hsch, s1, s2, Proofs.Jws.schemeAuthority_ne_x509]
  · unfold coseExpiryRules
    cases hp : (Cose.get e.prot Cose.lExpiry).isSome with
    | true => simp [hex1 hp]
    | false => simp [hex2 hp, isZeroT]

theorem c07_cose_model (e : Cose.Env) (ci : ChainInfo) (via : Bool) (c : Content)
    (hwf : CoseCritPresent e)
    (hv : wrapRead false ci (Cose.content e) = .val c) :
    cose "C07" e ci via c = none := by
  obtain ⟨_, _, _, _, _, k1, k2, k3⟩ := C07_sound_cose e ci c hv
  obtain ⟨hs, he⟩ := coseSchemeExpiry_pass e ci c hv
  have hc : coseCritRules e c = none := by
    have c2 : c.scheme = schemeAuthority → (Cose.critLabels e.prot).contains Cose.lAuthSigningTime = true :=
      fun ha => by simpa using k2 ha
    have c3 : (Cose.get e.prot Cose.lExpiry).isSome = true → (Cose.critLabels e.prot).contains Cose.lExpiry = true :=
      fun hp => by simpa using k3 hp
    have c4 : ((Cose.critLabels e.prot).all fun l => (Cose.get e.prot l).isSome) = true := List.all_eq_true.mpr hwf
    unfold coseCritRules
    rw [if_neg (by simpa using k1), if_neg (by simpa using c2), if_neg (by simpa using c3), if_neg (by rw [c4]; decide)]
  simp [cose, baseRules_pass ci c ((wrapRead_eq_val_iff ..).mp hv).2.2, hs, he, hc]

theorem tableRow_of_mem : ∀ row ∈ table, tableRowOfKey row.1 = some row := by decide

theorem c02Content_pass (k : Key) (c : Content) (h : ∃ row ∈ table, row.1 = k ∧ c.alg = row.2.1) :
    c02Content k c = none := by
  obtain ⟨row, hrow, h1, h2⟩ := h
  unfold c02Content
  rw [← h1, tableRow_of_mem row hrow]
  simp [h2]

theorem sameAttrSet_refl (l : List Attr) : sameAttrSet l l = true := by
  simp [sameAttrSet]

theorem jws_sigClause_pass (e : Jws.Env) (ci : ChainInfo) (c : Content)
    (hcons : LeafConsistent e.leafKey ci) (hv : wrapRead false ci (Jws.verify e) = .val c) :
    jwsSigClause e true = none := by
  obtain ⟨⟨id, rest, hx⟩, ⟨row, hrow, h1, _, ms, _, hp, hj, hs, _, _⟩, d1, d2, d3⟩ := C01_jws e ci c hcons hv
  have := tableRow_of_mem row hrow
  rw [h1] at this
  simp [jwsSigClause, d1, d2, d3, hx, this, hp, hj, hs]

theorem c02_jws_model_verify (e : Jws.Env) (ci : ChainInfo) (c : Content) (exact : Jws.Member → String)
    (hcons : LeafConsistent e.leafKey ci) (hv : wrapRead false ci (Jws.verify e) = .val c) :
    jws "C02" e exact ci true c = none := by
  have hsig := jws_sigClause_pass e ci c hcons hv
  obtain ⟨row, hrow, h1, h2, _⟩ := C02_verify_jws e ci c hcons hv
  have hc := c02Content_pass e.leafKey c ⟨row, hrow, h1, h2⟩
  simp [jws, hsig, hc]

theorem c02_jws_model_content (e : Jws.Env) (ci : ChainInfo) (c : Content) (exact : Jws.Member → String)
    (hcons : LeafConsistent e.leafKey ci) (hv : wrapRead false ci (Jws.content e) = .val c) :
    jws "C02" e exact ci false c = none := by
  have hc := c02Content_pass e.leafKey c (C02_content_jws e ci c hcons hv)
  simp [jws, jwsSigClause, hc]

theorem c01_jws_core (e : Jws.Env) (c : Content) (hinner : Jws.content e = .val c) (via : Bool)
    (hsig : jwsSigClause e via = none) (exact : Jws.Member → String) (ci : ChainInfo) :
    jws "C01" e exact ci via c = none := by
  obtain ⟨ms, h, alg, r, rfl⟩ := (Proofs.Jws.content_eq_val_iff e c).mp hinner
  have hm : Jws.contentOf e ms h (Jws.contentOf e ms h alg).alg = Jws.contentOf e ms h alg := rfl
  have hattrs : jwsExtAttrsSpec ms h = (Jws.contentOf e ms h alg).extAttrs := jwsExtAttrsSpec_eq ms h
  have hch : (Jws.contentOf e ms h alg).chain = e.x5c.filterMap id := rfl
  simp [jws, jwsDecoded, hsig, r.members, r.decodes, hm, hattrs, sameAttrSet_refl, hch]

theorem c01_jws_model_verify (e : Jws.Env) (ci : ChainInfo) (c : Content) (exact : Jws.Member → String)
    (hcons : LeafConsistent e.leafKey ci) (hv : wrapRead false ci (Jws.verify e) = .val c) :
    jws "C01" e exact ci true c = none := by
  obtain ⟨_, hinner, _⟩ := (wrapRead_eq_val_iff ..).mp (C07_verify_implies_content_jws e ci c hv)
  exact c01_jws_core e c hinner true (jws_sigClause_pass e ci c hcons hv) exact ci

theorem c01_jws_model_content (e : Jws.Env) (ci : ChainInfo) (c : Content) (exact : Jws.Member → String)
    (hv : wrapRead false ci (Jws.content e) = .val c) :
    jws "C01" e exact ci false c = none := by
  exact c01_jws_core e c ((wrapRead_eq_val_iff ..).mp hv).2.1 false (by simp [jwsSigClause]) exact ci

theorem cose_sigClause_pass (e : Cose.Env) (ci : ChainInfo) (c : Content)
    (hv : wrapRead false ci (Cose.verify e) = .val c) : coseSigClause e true = none := by
  obtain ⟨⟨id, rest, hx⟩, ⟨row, hrow, h1, _, hh, hs⟩, hp, _⟩ := C01_cose e ci c hv
  have := tableRow_of_mem row hrow
  rw [h1] at this
  simp [coseSigClause, hx, this, hh, hs, hp]

theorem c02_cose_model_verify (e : Cose.Env) (ci : ChainInfo) (c : Content)
    (hv : wrapRead false ci (Cose.verify e) = .val c) :
    cose "C02" e ci true c = none := by
  obtain ⟨row, hrow, h1, h2, _⟩ := C02_verify_cose e ci c hv
  simp [cose, cose_sigClause_pass e ci c hv, c02Content_pass e.leafKey c ⟨row, hrow, h1, h2⟩]

theorem c02_cose_model_content (e : Cose.Env) (ci : ChainInfo) (c : Content)
    (hcons : LeafConsistent e.leafKey ci) (hv : wrapRead false ci (Cose.content e) = .val c) :
    cose "C02" e ci false c = none := by
  simp [cose, coseSigClause, c02Content_pass e.leafKey c (C02_content_cose e ci c hcons hv)]

theorem c01_cose_core (e : Cose.Env) (ci : ChainInfo) (c : Content) (via : Bool)
    (hsig : coseSigClause e via = none) (hv : wrapRead false ci (Cose.content e) = .val c) :
    cose "C01" e ci via c = none := by
  obtain ⟨hs, he⟩ := coseSchemeExpiry_pass e ci c hv
  obtain ⟨cty, scheme, alg, st, ex, r, hc⟩ := (cose_content_eq_val_iff e c).mp ((wrapRead_eq_val_iff ..).mp hv).2.1
  have p1 : c.payload = e.payload := hc ▸ rfl
  have p2 : c.payloadLen = e.payloadLen := hc ▸ rfl
  have p3 : c.cty = cty := hc ▸ rfl
  have p4 : c.extAttrs = Cose.extAttrsOf e := hc ▸ rfl
  have p5 : c.chain = Cose.chainOf e := hc ▸ rfl
  simp [cose, hsig, p1, p2, r.ctyHdr, p3, hs, he, p4, coseExtAttrsSpec_eq, sameAttrSet_refl, p5]

theorem c01_cose_model_verify (e : Cose.Env) (ci : ChainInfo) (c : Content)
    (hv : wrapRead false ci (Cose.verify e) = .val c) : cose "C01" e ci true c = none :=
  c01_cose_core e ci c true (cose_sigClause_pass e ci c hv) (C07_verify_implies_content_cose e ci c hv)

theorem c01_cose_model_content (e : Cose.Env) (ci : ChainInfo) (c : Content)
    (hv : wrapRead false ci (Cose.content e) = .val c) : cose "C01" e ci false c = none :=
  c01_cose_core e ci c false (by simp [coseSigClause]) hv

end NotationCore.EnvMonitor
