import NotationCore.Props.C07
/-!
  C07, the converse half: every envelope that meets the envelope specification and carries a valid
  signature is accepted — by `Verify`, hence by `Content` — and the content returned is the
  decoding of its signed header.  The specification is written out as a structure of conditions on
  the decoded header, each with a concrete envelope meeting it: `JwsConforms` here, `CoseConforms` in
  `Proofs/Envelope.lean`, where `cose_verify_iff` shows it to be exact.  `JwsConforms` is not exact: the loop
  of `validateCriticalHeaders` also accepts a `crit` that repeats the name of an extended attribute, which
  `critNodup` excludes.
-/
namespace NotationCore.Props
open Base Algorithm Proofs.Envelope Proofs.Jws

/-- the critical-header loop accepts every duplicate-free list that contains every required header
    and otherwise only names of extended attributes -/
theorem critLoop_complete (ext : List String) (crit must : List String)
    (hnd : crit.Nodup) (hmnd : must.Nodup)
    (hsub : ∀ m ∈ must, m ∈ crit) (hall : ∀ c ∈ crit, c ∈ must ∨ c ∈ ext) :
    Jws.critLoop ext crit must = some [] := by
  induction crit generalizing must with
  | nil =>
    cases must with
    | nil => rfl
    | cons m ms => exact absurd (hsub m List.mem_cons_self) List.not_mem_nil
  | cons c cs ih =>
    obtain ⟨hc, hcs⟩ := List.nodup_cons.mp hnd
    have hall' : ∀ x ∈ cs, x ∈ must ∨ x ∈ ext := fun x hx => hall x (List.mem_cons_of_mem _ hx)
    simp only [Jws.critLoop]
    by_cases h1 : c ∈ must
    · -- `c` is required: it is struck off, and the rest of `crit` (which has no second `c`) covers the rest
      rw [if_pos (by simpa using h1)]
      refine ih _ hcs (hmnd.erase c) (fun m hm => ?_) (fun x hx => (hall' x hx).imp_left fun h => ?_)
      · have hne : m ≠ c := fun heq => List.Nodup.not_mem_erase hmnd (heq ▸ hm)
        exact (List.mem_cons.mp (hsub m (List.mem_of_mem_erase hm))).resolve_left hne
      · exact (List.mem_erase_of_ne fun (heq : x = c) => hc (heq ▸ hx)).mpr h
    · -- `c` is not required: it names an extended attribute, and every required header is further on
      rw [if_neg (by simpa using h1), if_pos (by simpa using (hall c List.mem_cons_self).resolve_left h1)]
      exact ih _ hcs hmnd (fun m hm => (List.mem_cons.mp (hsub m hm)).resolve_left fun heq => h1 (heq ▸ hm)) hall'

theorem critOK_complete {h : Jws.Hdr} {ext : List Jws.Member} (hne : h.crit ≠ []) (hnd : h.crit.Nodup)
    (hreq : ∀ m ∈ Jws.mustCrit h, m ∈ h.crit) (hpres : ∀ c ∈ h.crit, c ∈ Jws.mustCrit h ∨ c ∈ ext.map (·.key)) :
    Jws.critOK h ext = true := by
  unfold Jws.critOK
  rw [critLoop_complete _ _ _ hnd (mustCrit_nodup h) hreq hpres]
  cases hc : h.crit with
  | nil => exact absurd hc hne
  | cons a as => rfl

/-- the envelope specification for a JWS envelope with a valid signature, stated on the member
    list `ms` of the signed header, its decoding `h`, the signing time `st` of the scheme's header
    and the table row `row` of the leaf key -/
structure JwsConforms (e : Jws.Env) (ci : ChainInfo) (ms : List Jws.Member) (h : Jws.Hdr) (st : Time)
    (row : Key × Nat × String × Int × Nat) : Prop where
  compact : e.protDot = false ∧ e.payDot = false ∧ e.sigDot = false
  prot : e.prot = .obj ms
  exactNames : ∀ m ∈ ms, m.foldTwinOf = none
  decodes : Jws.decodeHdr ms {} = some h
  payload : e.payloadB64ok = true ∧ e.claimsOK = true ∧ e.payloadLen ≠ 0
  signature : e.sigB64ok = true ∧ e.sigLen ≠ 0
  leafParses : ∃ id rest, e.x5c = some id :: rest
  certsParse : ∀ x ∈ e.x5c, x.isSome = true
  scheme : (h.scheme = schemeX509 ∧ h.signingTime = some st ∧ h.authSigningTime = none) ∨
           (h.scheme = schemeAuthority ∧ h.authSigningTime = some st ∧ h.signingTime = none)
  signingTime : st ≠ zeroT
  expiry : h.expiry = none ∨ ∃ ex, h.expiry = some ex ∧ (ex = zeroT ∨ st < ex)
  critNonempty : h.crit ≠ []
  critNodup : h.crit.Nodup
  critRequired : ∀ m ∈ Jws.mustCrit h, m ∈ h.crit
  critPresent : ∀ c ∈ h.crit, c ∈ Jws.mustCrit h ∨ c ∈ (Jws.extMembers ms).map (·.key)
  keyRow : row ∈ table ∧ row.1 = e.leafKey
  alg : Jws.jwtAlg ms = some row.2.2.1
  signed : e.sigok.lookup row.2.2.1 = some true
  chain : Spec.Conforms .codeSigning ci.sigF ci.sigSelfF ci.certs none
  leaf : ∃ leaf rest, ci.certs = leaf :: rest ∧ leaf.key = e.leafKey

/-- **C07 (JWS, completeness)**: every envelope that meets the specification and carries a valid
    signature is accepted by `Verify` (hence by `Content`, `C07_verify_implies_content_jws`), and
    the content is the decoding of its signed header -/
theorem C07_complete_jws (e : Jws.Env) (ci : ChainInfo) (ms : List Jws.Member) (h : Jws.Hdr) (st : Time)
    (row : Key × Nat × String × Int × Nat) (S : JwsConforms e ci ms h st row) :
    wrapRead false ci (Jws.verify e) = .val (Jws.contentOf e ms h row.2.1) := by
  obtain ⟨hrow, hkey⟩ := S.keyRow
  obtain ⟨_, t1, t2, _⟩ := table_codes row hrow
  obtain ⟨t3, _, t4⟩ := table_keys row hrow
  obtain ⟨leaf, lrest, hcerts, hlk⟩ := S.leaf
  have halg : h.alg = row.2.2.1 := decodeHdr_alg ms {} h _ S.decodes S.alg
  obtain ⟨hs, hst⟩ := (schemeOK_signingTimeOf_iff h S.signingTime).mpr S.scheme
  have r : Reads e ms h row.2.1 :=
    ⟨by rw [S.prot]; rfl, S.decodes,
     (gates1_iff ..).mpr ⟨S.exactNames, S.payload.1, hs, critOK_complete S.critNonempty S.critNodup S.critRequired S.critPresent⟩,
     halg ▸ t1, (gates2_iff e).mpr ⟨S.signature.1, S.signature.2, S.certsParse⟩⟩
  have hjwt : Jws.verifyJWT e = true := (verifyJWT_iff e).mpr
    ⟨S.compact, ms, _, S.prot, S.alg, t2, S.payload.2.1, S.payload.1, S.signature.1, S.signed⟩
  have hex : h.expiry.getD zeroT = zeroT ∨ Jws.signingTimeOf h < h.expiry.getD zeroT := by
    rw [hst]
    rcases S.expiry with hn | ⟨ex, he, hz⟩
    · exact .inl (by rw [hn]; rfl)
    · rw [he]; exact hz
  have hsch : h.scheme ≠ "" := by
    rcases S.scheme with ⟨a, _⟩ | ⟨a, _⟩ <;> (rw [a]; decide)
  exact (wrapRead_eq_val_iff ..).mpr ⟨rfl,
    (verify_eq_val_iff ..).mpr ⟨S.leafParses, hjwt, (content_eq_val_iff ..).mpr ⟨ms, h, _, r, rfl⟩⟩,
    (validateEnvelopeContent_baseRules ..).mpr
      ⟨⟨S.payload.2.2, S.signature.2, fun hz => S.signingTime (hst.symm.trans hz), hex, S.chain, leaf, lrest, hcerts,
        by rw [hlk, ← hkey]; exact t3⟩, t4, hsch⟩⟩

/-! ### non-vacuity: a concrete envelope that meets `JwsConforms`

  Where header names are compared the fields are proved by `simp`, which settles an equation between string literals as a
  proposition; evaluating `==` on them in the elaborator (`decide`, `rfl`) costs several times as much. -/
private def soloCert : Chain.Cert :=
  { id := 0, subject := 10, issuer := 10, v3 := true, bcValid := false, isCA := false,
    maxPathLen := 0, maxPathLenZero := false, kuExt := some true, ku := 1, ekuExt := some false, eku := [3],
    unknownEku := 0, key := .ec 256, notBefore := 0, notAfter := 100 }
private def ci0 : ChainInfo := { certs := [soloCert], sig := [], sigSelf := [0] }
private def ms0 : List Jws.Member :=
  [{ key := "alg", val := .str "ES256" none, decoded := "", foldTwinOf := none },
   { key := "cty", val := .str "application/vnd.cncf.notary.payload.v1+json" none, decoded := "", foldTwinOf := none },
   { key := "crit", val := .arr [some (some "io.cncf.notary.signingScheme"), some (some "my.attr")], decoded := "", foldTwinOf := none },
   { key := "io.cncf.notary.signingScheme", val := .str "notary.x509" none, decoded := "", foldTwinOf := none },
   { key := "io.cncf.notary.signingTime", val := .str "t" (some 5), decoded := "", foldTwinOf := none },
   { key := "my.attr", val := .other, decoded := "7", foldTwinOf := none }]
private def h0 : Jws.Hdr :=
  { alg := "ES256", cty := "application/vnd.cncf.notary.payload.v1+json",
    crit := ["io.cncf.notary.signingScheme", "my.attr"], scheme := "notary.x509", signingTime := some 5 }
private def e0 : Jws.Env :=
  { protDot := false, payDot := false, sigDot := false, prot := .obj ms0, payloadB64ok := true, payload := "p",
    payloadLen := 2, claimsOK := true, sigB64ok := true, sigLen := 64, x5c := [some 0], leafKey := .ec 256,
    sigok := [("ES256", true)], agent := "", tst := "" }

example : JwsConforms e0 ci0 ms0 h0 5 (.ec 256, 4, "ES256", -7, 5) where
  compact := ⟨rfl, rfl, rfl⟩
  prot := rfl
  exactNames := by decide
  decodes := by
    simp only [ms0, Jws.decodeHdr, Jws.step, Jws.kAlg, Jws.kCty, Jws.kScheme, Jws.kCrit, Jws.kExpiry, Jws.kSigningTime,
      Jws.kAuthSigningTime, beq_iff_eq, String.reduceEq, ↓reduceIte]
    rfl
  payload := ⟨rfl, rfl, by decide⟩
  signature := ⟨rfl, by decide⟩
  leafParses := ⟨0, [], rfl⟩
  certsParse := by decide
  scheme := Or.inl ⟨rfl, rfl, rfl⟩
  signingTime := by decide
  expiry := Or.inl rfl
  critNonempty := by decide
  critNodup := by simp [h0]
  critRequired := by simp [mem_mustCrit, h0, Jws.kScheme, Jws.kExpiry, Jws.kAuthSigningTime, schemeAuthority, Generated.schemeSigningAuthority]
  critPresent := by simp [mem_mustCrit, mem_extMembers_keys, h0, ms0, Jws.kScheme, Generated.jwsHeaderKeys]
  keyRow := ⟨by decide, rfl⟩
  alg := by decide +kernel
  signed := by rfl
  chain := (C03 _ _ _ _).mp (by rfl)
  leaf := ⟨soloCert, [], rfl, rfl⟩

/-- **C07 (COSE, completeness)** -/
theorem C07_complete_cose (e : Cose.Env) (ci : ChainInfo) (cty scheme : String) (st ex : Time)
    (row : Key × Nat × String × Int × Nat) (S : CoseConforms e ci cty scheme st ex row) :
    wrapRead false ci (Cose.verify e) = .val (Cose.contentOf e cty scheme row.2.1 st ex) :=
  (cose_verify_iff ..).mpr ⟨_, _, _, _, _, S, rfl⟩

private def ce0 : Cose.Env :=
  { prot := [{ label := .int 1, val := .int (-7), tok := "" },
             { label := .int 2, val := .labels [.text "io.cncf.notary.signingScheme", .text "io.cncf.notary.expiry", .int 100], tok := "" },
             { label := .int 3, val := .text "application/vnd.cncf.notary.payload.v1+json", tok := "" },
             { label := .text "io.cncf.notary.signingScheme", val := .text "notary.x509", tok := "" },
             { label := .text "io.cncf.notary.signingTime", val := .time 5 1, tok := "" },
             { label := .text "io.cncf.notary.expiry", val := .time 9 1, tok := "" },
             { label := .int 100, val := .other, tok := "7" }],
    x5c := some [.bytes (some 0)], leafKey := .ec 256, payloadNil := false, payload := "p", payloadLen := 2,
    sigLen := 64, sigok := true, agent := "", tst := "" }

example : CoseConforms ce0 ci0 "application/vnd.cncf.notary.payload.v1+json" "notary.x509" 5 9 (.ec 256, 4, "ES256", -7, 5) where
  contentType := by simp [Cose.get, ce0, Cose.lCty]
  schemeHdr := by simp [Cose.get, ce0, Cose.lScheme]
  time := Or.inl ⟨rfl, by simp [Cose.get, ce0, Cose.lSigningTime]⟩
  signingTime := by decide
  expiry := Or.inr ⟨by simp [Cose.get, ce0, Cose.lExpiry], Or.inr (by decide)⟩
  critScheme := by simp [Cose.critLabels, Cose.get, ce0, Cose.lCrit, Cose.lScheme]
  critAuth := by simp [schemeAuthority, Generated.schemeSigningAuthority]
  critExpiry := fun _ => by simp [Cose.critLabels, Cose.get, ce0, Cose.lCrit, Cose.lExpiry]
  keyRow := ⟨by decide, rfl⟩
  alg := by simp [Cose.get, ce0, Cose.lAlg]
  payload := ⟨rfl, by decide⟩
  signature := ⟨by decide, rfl⟩
  certs := ⟨0, [], rfl, by decide⟩
  chain := (C03 _ _ _ _).mp (by rfl)
  leaf := ⟨soloCert, [], rfl, rfl⟩
end NotationCore.Props
