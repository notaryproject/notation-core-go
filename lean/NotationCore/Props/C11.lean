import NotationCore.Model.Revocation
import NotationCore.Props.C04
import NotationCore.Props.C05
/-!
  C11 — OCSP is preferred; CRL is consulted exactly when OCSP is absent or inconclusive.
-/
namespace NotationCore.Props
open Revocation

theorem certCheck_cases (env : Env) (c : Cert) (st : Time) {P : CertResult → List Contact → Prop}
    (none : c.ocsp = [] → c.crlDPs = [] → P nonRevokable [])
    (crl : c.ocsp = [] → c.crlDPs ≠ [] →
      P (Crl.certCheckStatus env.crl c.toCrl st) ((Crl.contacted env.crl c.toCrl st c.crlDPs).map .crl))
    (ocsp : c.ocsp ≠ [] → (Ocsp.certCheckStatus env.ocsp c.ocsp st).result ≠ .unknown ∨ c.crlDPs = [] →
      P (Ocsp.certCheckStatus env.ocsp c.ocsp st) ((Ocsp.contacted env.ocsp st c.ocsp).map .ocsp))
    (fallback : c.ocsp ≠ [] → (Ocsp.certCheckStatus env.ocsp c.ocsp st).result = .unknown → c.crlDPs ≠ [] →
      P { result := (Crl.certCheckStatus env.crl c.toCrl st).result, method := .ocspFallbackCrl,
          servers := (Ocsp.certCheckStatus env.ocsp c.ocsp st).servers ++ (Crl.certCheckStatus env.crl c.toCrl st).servers }
        ((Ocsp.contacted env.ocsp st c.ocsp).map .ocsp ++ (Crl.contacted env.crl c.toCrl st c.crlDPs).map .crl)) :
    P (certCheck env c st) (certTrace env c st) := by
  unfold certCheck certTrace
  by_cases ho : c.ocsp = [] <;> by_cases hk : c.crlDPs = []
  · simpa [ho, hk] using none ho hk
  · simpa [ho, hk] using crl ho hk
  · simpa [ho, hk] using ocsp ho (.inr hk)
  · by_cases hr : (Ocsp.certCheckStatus env.ocsp c.ocsp st).result = .unknown
    · simpa [ho, hk, hr] using fallback ho hr hk
    · simpa [ho, hk, hr] using ocsp ho (.inl hr)

theorem ocsp_result_cases (env : Ocsp.Env) (urls : List Url) (st : Time) (hne : urls ≠ []) :
    (Ocsp.certCheckStatus env urls st).result = .ok ∨ (Ocsp.certCheckStatus env urls st).result = .revoked ∨
      (Ocsp.certCheckStatus env urls st).result = .unknown :=
  (ocsp_outcome env urls st hne).imp And.left (.imp And.left id)

/-- **C11 (decision table)** — for every certificate (any number of responders and distribution
    points), every environment and signing time.  `o` is the OCSP outcome, `k` the CRL outcome. -/
theorem C11_decision_table (env : Env) (c : Cert) (st : Time) :
    let r := certCheck env c st
    let o := Ocsp.certCheckStatus env.ocsp c.ocsp st
    let k := Crl.certCheckStatus env.crl c.toCrl st
    -- a Good or Revoked OCSP answer is final
    (c.ocsp ≠ [] → (o.result = .ok ∨ o.result = .revoked) → r = o) ∧
    -- OCSP inconclusive and CRL available: CRL outcome, labelled fallback, OCSP entries first
    (c.ocsp ≠ [] → o.result = .unknown → c.crlDPs ≠ [] →
        r.result = k.result ∧ r.method = .ocspFallbackCrl ∧ r.servers = o.servers ++ k.servers) ∧
    -- OCSP inconclusive and no distribution point: the OCSP outcome stands
    (c.ocsp ≠ [] → o.result = .unknown → c.crlDPs = [] → r = o) ∧
    -- no responder: CRL outcome
    (c.ocsp = [] → c.crlDPs ≠ [] → r = k) ∧
    -- neither: NonRevokable
    (c.ocsp = [] → c.crlDPs = [] → r = nonRevokable) := by
  simp only [certCheck]
  refine ⟨?_, ?_, ?_, ?_, ?_⟩
  · rintro h1 (h2 | h2) <;> simp [h1, h2]
  · intro h1 h2 h3; simp [h1, h2, h3]
  · intro h1 h2 h3; simp [h1, h3]
  · intro h1 h3; simp [h1, h3]
  · intro h1 h3; simp [h1, h3]

/-- a Revoked OCSP answer is never softened by CRLs -/
theorem C11_revoked_never_softened (env : Env) (c : Cert) (st : Time) (hne : c.ocsp ≠ [])
    (h : (Ocsp.certCheckStatus env.ocsp c.ocsp st).result = .revoked) :
    (certCheck env c st).result = .revoked := by
  rw [(C11_decision_table env c st).1 hne (Or.inr h)]; exact h

def isCrlContact : Contact → Bool
  | .crl _ => true
  | .ocsp _ => false

theorem ocsp_contacted_subset (e : Ocsp.Env) (st : Time) (l : List Url) : ∀ u ∈ Ocsp.contacted e st l, u ∈ l := by
  induction l with
  | nil => simp [Ocsp.contacted]
  | cons a as ih =>
    have here : ∀ u ∈ (match e.urlKind a with | .scheme true => [a] | _ => []), u ∈ a :: as := by
      split <;> simp
    intro u hu
    simp only [Ocsp.contacted] at hu
    split at hu
    · exact here u hu
    · exact (List.mem_append.mp hu).elim (here u) fun h => List.mem_cons_of_mem _ (ih u h)

theorem crl_contacted_subset (e : Crl.Env) (c : Crl.RCert) (st : Time) (l : List Url) :
    ∀ u ∈ Crl.contacted e c st l, u ∈ l := by
  induction l with
  | nil => simp [Crl.contacted]
  | cons a as ih =>
    intro u hu
    simp only [Crl.contacted] at hu
    split at hu
    · exact (List.mem_cons.mp hu).elim (· ▸ List.mem_cons_self ..) fun h => List.mem_cons_of_mem _ (ih u h)
    · exact List.mem_cons.mpr (.inl (List.mem_singleton.mp hu))

/-- no CRL is fetched after a Good or Revoked OCSP answer, nor when OCSP is inconclusive but the
    certificate names no distribution point -/
theorem C11_no_crl_after_decisive (env : Env) (c : Cert) (st : Time) (hne : c.ocsp ≠ [])
    (h : (Ocsp.certCheckStatus env.ocsp c.ocsp st).result ≠ .unknown ∨ c.crlDPs = []) :
    (certTrace env c st).filter isCrlContact = [] := by
  refine certCheck_cases env c st (P := fun _ t => t.filter isCrlContact = [])
    (fun _ _ => rfl) (fun ho => absurd ho hne) (fun _ _ => ?_) (fun _ hr hk => h.elim (absurd hr) (absurd · hk))
  simp [List.filter_map, Function.comp_def, isCrlContact]

/-- responders are asked before any distribution point: the trace is OCSP contacts followed by
    CRL contacts -/
theorem C11_ocsp_first (env : Env) (c : Cert) (st : Time) :
    ∃ os ks : List Url, certTrace env c st = os.map Contact.ocsp ++ ks.map Contact.crl ∧
      (∀ u ∈ os, u ∈ c.ocsp) ∧ (∀ u ∈ ks, u ∈ c.crlDPs) := by
  have hO := ocsp_contacted_subset env.ocsp st c.ocsp
  have hK := crl_contacted_subset env.crl c.toCrl st c.crlDPs
  exact certCheck_cases env c st
    (P := fun _ t => ∃ os ks : List Url, t = os.map Contact.ocsp ++ ks.map Contact.crl ∧
      (∀ u ∈ os, u ∈ c.ocsp) ∧ (∀ u ∈ ks, u ∈ c.crlDPs))
    (fun _ _ => ⟨[], [], rfl, by simp, by simp⟩) (fun _ _ => ⟨[], _, rfl, by simp, hK⟩)
    (fun _ _ => ⟨_, [], by simp, hO, by simp⟩) (fun _ _ _ => ⟨_, _, rfl, hO, hK⟩)

/-- the responders contacted are the http responders up to and including the first decisive one -/
theorem C11_ocsp_stops_at_decisive (e : Ocsp.Env) (st : Time) (pre : List Url) (u : Url) (post : List Url)
    (hpre : ∀ v ∈ pre, Ocsp.decisive (Ocsp.checkStatusFromServer e st v) = false)
    (hu : Ocsp.decisive (Ocsp.checkStatusFromServer e st u) = true) :
    Ocsp.contacted e st (pre ++ u :: post) = Ocsp.contacted e st (pre ++ [u]) := by
  induction pre with
  | nil => simp [Ocsp.contacted, hu]
  | cons a as ih =>
    have ha := hpre a (by simp)
    simp only [List.cons_append, Ocsp.contacted, ha, Bool.false_eq_true, if_false]
    rw [ih (fun v hv => hpre v (List.mem_cons_of_mem _ hv))]

/-- the standalone OCSP entry point never consults CRLs: its per-certificate result is the OCSP
    outcome whatever the CRL environment is -/
theorem C11_standalone_never_crl (env env' : Env) (c : Cert) (st : Time) (h : env.ocsp = env'.ocsp) :
    certCheckOcspOnly env c st = certCheckOcspOnly env' c st := by
  unfold certCheckOcspOnly; rw [h]

/-! ### non-vacuity -/
private def oEnv (x : Ocsp.Exchange) : Ocsp.Env := { urlKind := fun _ => .scheme true, exchange := fun _ => x, now := 100 }
private def kEnv : Crl.Env := { fetch := fun _ => .bundle ⟨{ sigOK := true, nextUpdate := 500, number := none, critUnknownExt := false, indicator := none, entries := [] }, none⟩, now := 100 }
private def cert1 : Cert := { serial := 1, ocsp := ["http://o"], crlDPs := ["http://c"], hasFreshest := false }
-- OCSP transport error ⇒ falls back to CRL, labelled fallback, two server entries
example : (certCheck ⟨oEnv (.err .generic), kEnv⟩ cert1 0).method = .ocspFallbackCrl := by decide
example : (certCheck ⟨oEnv (.err .generic), kEnv⟩ cert1 0).result = .ok := by decide
example : (certCheck ⟨oEnv (.err .generic), kEnv⟩ cert1 0).servers.length = 2 := by decide
-- OCSP Revoked ⇒ final, no CRL contact
example : (certCheck ⟨oEnv (.resp ⟨.revoked, 500, none, .issuer⟩), kEnv⟩ cert1 0).result = .revoked := by decide
example : (certTrace ⟨oEnv (.resp ⟨.revoked, 500, none, .issuer⟩), kEnv⟩ cert1 0) = [.ocsp "http://o"] := by decide
-- responder says Unknown ⇒ still falls back (Unknown is inconclusive)
example : (certTrace ⟨oEnv (.resp ⟨.unknown, 500, none, .issuer⟩), kEnv⟩ cert1 0) = [.ocsp "http://o", .crl "http://c"] := by decide

end NotationCore.Props
