import NotationCore.Props.C07
/-!
  C13 — every non-specification signed header is surfaced with its true criticality.
-/
namespace NotationCore.Props
open Base Proofs.Envelope Proofs.Jws

theorem nodup_map_inj {α β} (f : α → β) (hf : ∀ a b, f a = f b → a = b) (l : List α) (h : l.Nodup) :
    (l.map f).Nodup :=
  List.Pairwise.map f (fun a b hne heq => hne (hf a b heq)) h

/-- **C13 (JWS, exactly the non-specification headers, each once)**: after successful content
    extraction the extended attributes are exactly the protected members whose name is not one of
    the seven defined header names — one attribute per such name (the last member of that name, as
    JSON decoding has it), with the member's decoded value, flagged critical iff the name is in
    `crit` -/
theorem C13_exact_jws (e : Jws.Env) (c : Content) (hv : Jws.content e = .val c) :
    ∃ ms h, Jws.membersOf e.prot = some ms ∧ Jws.decodeHdr ms {} = some h ∧
      (c.extAttrs.map (·.key)).Nodup ∧
      (∀ a ∈ c.extAttrs, ∃ k, a.key = .text k ∧ k ∉ Generated.jwsHeaderKeys ∧
          (a.critical = true ↔ k ∈ h.crit) ∧
          ∃ pre m post, ms = pre ++ m :: post ∧ m.key = k ∧ a.value = m.decoded ∧ ∀ r ∈ post, r.key ≠ k) ∧
      (∀ m ∈ ms, m.key ∉ Generated.jwsHeaderKeys → ∃ a ∈ c.extAttrs, a.key = .text m.key) := by
  obtain ⟨ms, h, alg, r, rfl⟩ := (content_eq_val_iff e c).mp hv
  refine ⟨ms, h, r.members, r.decodes, ?_, fun a ha => ?_, fun m hm hnot => ?_⟩
  · -- the keys of the attributes are the (distinct) names of `extMembers ms`, wrapped in `AKey.text`
    have : (Jws.extAttrsOf ms h).map (·.key) = ((Jws.extMembers ms).map (·.key)).map AKey.text := by
      simp [Jws.extAttrsOf, List.map_map, Function.comp_def]
    exact this ▸ nodup_map_inj _ (fun _ _ => AKey.text.inj) _ (extMembers_go_spec _).1
  · obtain ⟨m, hm, rfl⟩ := List.mem_map.mp ha
    obtain ⟨hnot, pre, post, h1, h2⟩ := (mem_extMembers ms m).mp hm
    exact ⟨m.key, rfl, hnot, by simp, pre, m, post, h1, rfl, rfl, h2⟩
  · obtain ⟨m', hm', hk⟩ := List.mem_map.mp ((mem_extMembers_keys ms m.key).mpr ⟨hnot, List.mem_map_of_mem hm⟩)
    exact ⟨_, List.mem_map_of_mem hm', by simp [hk]⟩

/-- **C13 (JWS, phantom critical label)**: a `crit` entry that names neither a required-critical
    header nor a present extended attribute makes the envelope invalid -/
theorem C13_phantom_crit_jws (e : Jws.Env) (ms : List Jws.Member) (h : Jws.Hdr)
    (h1 : Jws.membersOf e.prot = some ms) (h2 : Jws.decodeHdr ms {} = some h)
    (hph : ∃ l ∈ h.crit, l ∉ [Jws.kScheme, Jws.kExpiry, Jws.kAuthSigningTime] ∧ l ∉ (Jws.extMembers ms).map (·.key)) :
    ∀ c ci, wrapRead false ci (Jws.content e) ≠ .val c := by
  intro c ci hv
  obtain ⟨_, ms', h', a1, a2, _, _, _, _, hall⟩ := C07_sound_jws e ci c hv
  rw [h1] at a1; cases a1
  rw [h2] at a2; cases a2
  obtain ⟨l, hl, n1, n2⟩ := hph
  rcases hall l hl with h' | h'
  · exact n1 h'
  · exact n2 h'

theorem toAKey_inj (a b : Cose.Label) (h : Cose.toAKey a = Cose.toAKey b) : a = b := by
  cases a <;> cases b <;> simp [Cose.toAKey] at h <;> simp [h]

/-- **C13 (COSE, exactly the non-specification headers, each once)**: given that the protected
    header's labels are pairwise distinct (go-cose refuses duplicates when parsing) -/
theorem C13_exact_cose (e : Cose.Env) (c : Content) (hnodup : (e.prot.map (·.label)).Nodup)
    (hv : Cose.content e = .val c) :
    (c.extAttrs.map (·.key)).Nodup ∧
    (∀ a ∈ c.extAttrs, ∃ en ∈ e.prot, a.key = Cose.toAKey en.label ∧ Cose.isSystem en.label = false ∧
        a.value = en.tok ∧ (a.critical = true ↔ en.label ∈ Cose.critLabels e.prot)) ∧
    (∀ en ∈ e.prot, Cose.isSystem en.label = false → ∃ a ∈ c.extAttrs, a.key = Cose.toAKey en.label) := by
  obtain ⟨cty, scheme, alg, st, ex, _, rfl⟩ := (cose_content_eq_val_iff e c).mp hv
  refine ⟨?_, fun a ha => ?_, fun en hen hsys => ?_⟩
  · have : (Cose.extAttrsOf e).map (·.key) =
        ((e.prot.filter fun en => !Cose.isSystem en.label).map (·.label)).map Cose.toAKey := by
      simp [Cose.extAttrsOf, List.map_map, Function.comp_def]
    exact this ▸ nodup_map_inj _ toAKey_inj _ (List.Nodup.sublist (List.Sublist.map _ List.filter_sublist) hnodup)
  · obtain ⟨en, hen, rfl⟩ := List.mem_map.mp ha
    obtain ⟨hin, hsys⟩ := List.mem_filter.mp hen
    exact ⟨en, hin, rfl, by simpa using hsys, rfl, by simp⟩
  · exact ⟨_, List.mem_map.mpr ⟨en, List.mem_filter.mpr ⟨hen, by simp [hsys]⟩, rfl⟩, rfl⟩

/-- headers defined by the specification never appear among the COSE extended attributes -/
theorem C13_no_spec_label_cose (e : Cose.Env) (c : Content) (hv : Cose.content e = .val c) :
    ∀ a ∈ c.extAttrs, a.key ∉ [AKey.int 1, .int 2, .int 3, .text "io.cncf.notary.expiry",
      .text "io.cncf.notary.signingScheme", .text "io.cncf.notary.signingTime", .text "io.cncf.notary.authenticSigningTime"] := by
  obtain ⟨cty, scheme, alg, st, ex, _, rfl⟩ := (cose_content_eq_val_iff e c).mp hv
  intro a ha hmem
  obtain ⟨en, hen, rfl⟩ := List.mem_map.mp ha
  have hsys : Cose.isSystem en.label = false := by simpa using (List.mem_filter.mp hen).2
  -- the seven keys are the regenerated system labels
  cases hl : en.label <;>
    simp [hl, Cose.toAKey, Cose.isSystem, Generated.coseSystemIntLabels, Generated.coseSystemTextLabels] at hsys hmem <;>
    simp_all

/-- `ExtendedAttribute(key string)`: first attribute whose key is that text -/
def extendedAttribute (attrs : List Attr) (k : String) : Option Attr := attrs.find? (fun a => a.key == .text k)

theorem C13_lookup (attrs : List Attr) (k : String) :
    (∀ a, extendedAttribute attrs k = some a → a ∈ attrs ∧ a.key = .text k) ∧
    (extendedAttribute attrs k = none ↔ ∀ a ∈ attrs, a.key ≠ .text k) := by
  unfold extendedAttribute
  constructor
  · intro a h
    exact ⟨List.mem_of_find?_eq_some h, by simpa using List.find?_some h⟩
  · simp [List.find?_eq_none]

end NotationCore.Props
