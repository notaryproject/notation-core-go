import NotationCore.Props.C08
/-!
  C08 — the model-level round trip for COSE (see `Props/C08.lean` for JWS and for what the two share).
-/
namespace NotationCore.Props
open Base Algorithm Sign Encode Proofs.Envelope

theorem cose_alg_consistent (ks : KeySpec) (k : Key) (hne : signatureAlgorithm ks ≠ 0)
    (hk : keyAlg k = some (signatureAlgorithm ks)) :
    ∃ ca, coseAlgOfKeySpec ks = some ca ∧ Cose.keyCoseAlg k = some ca ∧ coseAlgToAlg ca = some (signatureAlgorithm ks) := by
  obtain ⟨row, hrow, hk', ha, hca⟩ := signer_row ks k hk
  exact ⟨_, hca, hk' ▸ (table_keys row hrow).2.1, ha ▸ (table_codes row hrow).2.2.2⟩

theorem coseLabel_toAKey (a : ReqAttr) : (coseLabel a).map Cose.toAKey = normKey .cose a.key := by
  unfold coseLabel normKey
  cases a.key <;> rfl

theorem coseLabels_nodup (ext : List ReqAttr) (hk : KeysOK .cose ext) : (ext.filterMap coseLabel).Nodup :=
  keys_nodup .cose coseLabel Cose.toAKey (fun a => (coseLabel_toAKey a).symm) hk

/-- the labels of the entries the sign side writes for the specification -/
def specLabels : List Cose.Label :=
  [Cose.lAlg, Cose.lCrit, Cose.lCty, Cose.lScheme, Cose.lSigningTime, Cose.lAuthSigningTime, Cose.lExpiry]

/-- they are the ones the read side sets apart (`simp` compares the strings far more cheaply than the kernel would, which
    is why this is proved once and by `simp`) -/
theorem isSystem_spec : ∀ l ∈ specLabels, Cose.isSystem l = true := by
  simp [specLabels, Cose.isSystem, Cose.lAlg, Cose.lCrit, Cose.lCty, Cose.lScheme, Cose.lSigningTime, Cose.lAuthSigningTime,
    Cose.lExpiry, Generated.coseSystemIntLabels, Generated.coseSystemTextLabels]

theorem cose_filter_spec (r : Req) (alg : Int) :
    (coseSpecEntries r alg).filter (fun en => !Cose.isSystem en.label) = [] := by
  have h := isSystem_spec
  simp only [specLabels, List.forall_mem_cons] at h
  simp [coseSpecEntries, apply_ite Cose.isSystem, h]

/-- a label is one of the specification's exactly if the key it comes from collides -/
theorem isSystem_coseLabel (a : ReqAttr) (lab : Cose.Label) (hl : coseLabel a = some lab) :
    Cose.isSystem lab = true ↔ Collides .cose a.key := by
  unfold coseLabel at hl
  cases hkey : a.key <;> simp only [hkey, Option.some.injEq, reduceCtorEq] at hl <;> subst hl <;>
    simp [Cose.isSystem, Collides, specLabelsCoseText, specLabelsCoseInt]

theorem coseLabel_nonsystem (ext : List ReqAttr) (hk : KeysOK .cose ext) (a : ReqAttr) (ha : a ∈ ext) (lab : Cose.Label)
    (hl : coseLabel a = some lab) : Cose.isSystem lab = false := by
  cases hs : Cose.isSystem lab with
  | false => rfl
  | true => exact absurd ((isSystem_coseLabel a lab hl).mp hs) (hk.2.1 a ha)

theorem coseEntry_nonsystem (ext : List ReqAttr) (hk : KeysOK .cose ext) :
    ∀ e ∈ ext.filterMap coseExtEntry, Cose.isSystem e.label = false := by
  intro e he
  obtain ⟨a, ha, hea⟩ := List.mem_filterMap.mp he
  obtain ⟨lab, hl, rfl⟩ := Option.map_eq_some_iff.mp hea
  exact coseLabel_nonsystem ext hk a ha lab hl

theorem cose_crit_contains (r : Req) (hk : KeysOK .cose r.ext) (a : ReqAttr) (ha : a ∈ r.ext) (lab : Cose.Label)
    (hl : coseLabel a = some lab) : (coseCritList r).contains lab = a.critical := by
  have hne : ∀ l ∈ specLabels, lab ≠ l := by
    rintro l hs rfl
    have := isSystem_spec _ hs
    rw [coseLabel_nonsystem r.ext hk a ha lab hl] at this; cases this
  have h1 := hne Cose.lScheme (by simp [specLabels])
  have h2 := hne Cose.lAuthSigningTime (by simp [specLabels])
  have h3 := hne Cose.lExpiry (by simp [specLabels])
  -- besides the attributes' labels the list holds specification labels only
  have : lab ∈ coseCritList r ↔ lab ∈ coseCritExt r.ext := by
    simp only [coseCritList, List.mem_append, List.mem_singleton]
    split <;> split <;> simp [h1, h2, h3]
  rw [Bool.eq_iff_iff, List.contains_iff_mem, this]
  exact mem_critKeys_iff (coseLabels_nodup r.ext hk) ha hl

theorem cose_attrs_encoded (r : Req) (hk : KeysOK .cose r.ext) :
    (r.ext.filterMap coseExtEntry).map (fun en => ({ key := Cose.toAKey en.label, critical := (coseCritList r).contains en.label, value := en.tok } : Attr)) =
    attrsOf .cose r.ext := by
  rw [List.map_filterMap]
  apply filterMap_congr
  intro a ha
  rw [← coseLabel_toAKey, coseExtEntry, Option.map_map, Option.map_map]
  cases hl : coseLabel a with
  | none => rfl
  | some lab => simp only [Option.map_some, Function.comp_apply, cose_crit_contains r hk a ha lab hl]

theorem cose_get_append (a b : List Cose.Entry) (l : Cose.Label) (hs : Cose.isSystem l = true)
    (hb : ∀ e ∈ b, Cose.isSystem e.label = false) : Cose.get (a ++ b) l = Cose.get a l := by
  have hnone : b.find? (fun e => e.label == l) = none :=
    List.find?_eq_none.mpr fun e he hel => by rw [← beq_iff_eq.mp hel, hb e he] at hs; cases hs
  rw [Cose.get, List.find?_append, hnone, Option.or_none, Cose.get]

theorem cose_get_env (r : Req) (p : Prepared) (ca : Int) (hk : KeysOK .cose r.ext) (l : Cose.Label) (hl : l ∈ specLabels) :
    Cose.get (coseEnv r p ca).prot l = Cose.get (coseSpecEntries r ca) l :=
  cose_get_append _ _ l (isSystem_spec l hl) (coseEntry_nonsystem r.ext hk)

theorem cose_get_spec (r : Req) (alg : Int) :
    Cose.get (coseSpecEntries r alg) Cose.lAlg = some (.int alg) ∧
    Cose.get (coseSpecEntries r alg) Cose.lCrit = some (.labels (coseCritList r)) ∧
    Cose.get (coseSpecEntries r alg) Cose.lCty = some (.text r.cty) ∧
    Cose.get (coseSpecEntries r alg) Cose.lScheme = some (.text r.scheme) ∧
    Cose.get (coseSpecEntries r alg) (if r.scheme == schemeX509 then Cose.lSigningTime else Cose.lAuthSigningTime) =
      some (.time (truncSec r.signingTime) 1) ∧
    Cose.get (coseSpecEntries r alg) Cose.lExpiry =
      (if isZeroT (truncSec r.expiry) then none else some (.time (truncSec r.expiry) 1)) := by
  unfold coseSpecEntries
  cases (r.scheme == schemeX509) <;> cases isZeroT (truncSec r.expiry) <;> exact ⟨rfl, rfl, rfl, rfl, rfl, rfl⟩

theorem critLabels_encoded (r : Req) (p : Prepared) (ca : Int) (hk : KeysOK .cose r.ext) :
    Cose.critLabels (coseEnv r p ca).prot = coseCritList r := by
  rw [Cose.critLabels, cose_get_env r p ca hk _ (by simp [specLabels]), (cose_get_spec r ca).2.1]

/-- the envelope the sign model emits meets the envelope specification -/
theorem coseEnv_conforms {r : Req} {p : Prepared} {row : Key × Nat × String × Int × Nat} (S : Signed .cose r p row) :
    CoseConforms (coseEnv r p row.2.2.2.1) p.ci r.cty r.scheme (truncSec r.signingTime) (truncSec r.expiry) row := by
  obtain ⟨leaf, rest, hcerts, hkey⟩ := S.leaf
  -- the specification headers, looked up in the emitted label map
  obtain ⟨g1, _, g3, g4, g5, g6⟩ := cose_get_spec r row.2.2.2.1
  have hget := cose_get_env r p row.2.2.2.1 S.keys
  rw [← hget _ (by split <;> simp [specLabels])] at g5
  rw [← hget _ (by simp [specLabels])] at g1 g3 g4 g6
  have hcrit := critLabels_encoded r p row.2.2.2.1 S.keys
  exact {
    contentType := g3
    schemeHdr := g4
    time := S.scheme.imp (fun e => ⟨e, by simpa [e] using g5⟩)
      (fun e => ⟨e, by simpa [e, Proofs.Jws.schemeAuthority_ne_x509] using g5⟩)
    signingTime := S.signingTime
    expiry := by
      rw [g6]
      cases hz : isZeroT (truncSec r.expiry) with
      | true => exact .inl ⟨rfl, (isZeroT_iff _).mp hz⟩
      | false => exact .inr ⟨rfl, S.expiry⟩
    critScheme := by simp [hcrit, coseCritList]
    critAuth := fun e => by simp [hcrit, coseCritList, e]
    critExpiry := by
      rw [g6, hcrit]
      cases hz : isZeroT (truncSec r.expiry) <;> simp [coseCritList, hz]
    keyRow := ⟨S.inTable, by simp [coseEnv, hcerts, hkey]⟩
    alg := g1
    payload := ⟨rfl, S.payload⟩
    signature := ⟨S.sigLen, rfl⟩
    certs := ⟨leaf.id, rest.map fun c => .bytes (some c.id), by simp [coseEnv, hcerts], by simp [Cose.goodCert]⟩
    chain := S.chain
    leaf := ⟨leaf, rest, hcerts, by simp [coseEnv, hcerts]⟩ }

/-- and what the read side makes of its signed headers is the content the sign model reports -/
theorem coseEnv_content (r : Req) (p : Prepared) (ca : Int) (alg : Nat) (hk : KeysOK .cose r.ext) :
    Cose.contentOf (coseEnv r p ca) r.cty r.scheme alg (truncSec r.signingTime) (truncSec r.expiry) =
      Sign.contentOf .cose r p.s p.ci alg p.tst := by
  have hattrs : Cose.extAttrsOf (coseEnv r p ca) = attrsOf .cose r.ext := by
    rw [Cose.extAttrsOf, critLabels_encoded r p ca hk, show (coseEnv r p ca).prot = _ ++ _ from rfl, List.filter_append,
      cose_filter_spec, List.nil_append, List.filter_eq_self.mpr fun e he => by simp [coseEntry_nonsystem r.ext hk e he]]
    exact cose_attrs_encoded r hk
  simp only [Cose.contentOf, hattrs, Sign.contentOf]
  simp [coseEnv, Cose.chainOf, Function.comp_def]

/-- **C08 (round trip, COSE, model level)**: as `C08_roundtrip_jws`, for the COSE envelope — times
    travel as CBOR tag 1, integer and text attribute labels come back as the request's keys after
    the normalisation under which the sign side detects duplicates -/
theorem C08_roundtrip_cose (r : Req) (c : Content) (h : sign .cose r = .ok c) :
    ∃ p ca, prepare .cose r = .ok p ∧ coseAlgOfKeySpec p.ks = some ca ∧
      wrapRead false p.ci (Cose.verify (coseEnv r p ca)) = .val c := by
  obtain ⟨p, row, hp, S, _, hca, rfl⟩ := sign_ok_signed h
  refine ⟨p, _, hp, hca, ?_⟩
  rw [C07_complete_cose _ _ _ _ _ _ _ (coseEnv_conforms S), coseEnv_content r p _ _ S.keys]

end NotationCore.Props
