import NotationCore.Model.Ocsp
import NotationCore.Proofs.Crl
/-!
  C04 — OCSP yields OK only on an authentic, current Good answer by an authorised signer.
-/
namespace NotationCore.Props
open Ocsp

/-- signed by the issuer's key, or by an embedded certificate the issuer issued that is the
    issuer's own certificate or is authorised for OCSP signing (id-kp-OCSPSigning).  That the
    embedded certificate was issued by the issuer, and that the signature verifies, is what makes
    a `Resp` exist at all (contract of `ocsp.ParseResponseForCert`). -/
def Authentic (r : Resp) : Prop :=
  r.signer = .issuer ∨ ∃ isIssuer eku, r.signer = .delegate isIssuer eku ∧ (isIssuer = true ∨ eku = true)

/-- status Good, or Revoked with an invalidity date later than a supplied signing time -/
def SaysGood (st : Time) (r : Resp) : Prop :=
  r.status = .good ∨ (r.status = .revoked ∧ st ≠ zeroT ∧ ∃ d, r.invDate = some (some d) ∧ st < d)

def GoodFor (st now : Time) (r : Resp) : Prop :=
  Authentic r ∧ ¬ now > r.nextUpdate ∧ SaysGood st r

/-- the responder at `u` is an HTTP URL that delivered authentic, current evidence of good standing -/
def OcspEvidence (env : Env) (st : Time) (u : Url) : Prop :=
  env.urlKind u = .scheme true ∧ ∃ r, env.exchange u = .resp r ∧ GoodFor st env.now r

/-- authentic current Revoked answer that the signing time does not excuse -/
def OcspRevokes (env : Env) (st : Time) (u : Url) : Prop :=
  env.urlKind u = .scheme true ∧ ∃ r, env.exchange u = .resp r ∧ Authentic r ∧ ¬ env.now > r.nextUpdate ∧
    r.status = .revoked ∧ ¬ SaysGood st r

theorem authorised_iff (r : Resp) : authorised r.signer = true ↔ Authentic r := by
  unfold authorised Authentic
  cases r.signer with
  | issuer => simp
  | delegate a b => cases a <;> cases b <;> simp

theorem excused_iff (st : Time) (r : Resp) :
    excusedByDate st r = true ↔ (r.status = .revoked ∧ st ≠ zeroT ∧ ∃ d, r.invDate = some (some d) ∧ st < d) := by
  unfold excusedByDate isZeroT
  rcases r.invDate with _ | _ | d <;> simp
  exact ⟨fun ⟨⟨a, b⟩, c⟩ => ⟨b, a, c⟩, fun ⟨b, a, c⟩ => ⟨⟨a, b⟩, c⟩⟩

theorem saysGood_iff (st : Time) (r : Resp) :
    SaysGood st r ↔ r.status = .good ∨ excusedByDate st r = true := by
  rw [excused_iff]; rfl

theorem respResult_iff (now st : Time) (u : Url) (r : Resp) :
    ((respResult now st u r).result = .ok ↔ GoodFor st now r) ∧
    ((respResult now st u r).result = .revoked ↔
      (Authentic r ∧ ¬ now > r.nextUpdate ∧ r.status = .revoked ∧ ¬ SaysGood st r)) := by
  rw [GoodFor, ← authorised_iff, saysGood_iff]
  unfold respResult
  cases authorised r.signer
  · simp [sr]
  by_cases hn : now > r.nextUpdate
  · simp [sr, hn]
  cases excusedByDate st r
  · cases r.status <;> simp [sr, hn]
  · simp [sr, hn]

theorem server_eq_sr (env : Env) (st : Time) (u : Url) :
    ∃ res err, checkStatusFromServer env st u = sr res u err ∧ res ≠ .nonRevokable := by
  unfold checkStatusFromServer respResult
  repeat' split
  all_goals exact ⟨_, _, rfl, by decide⟩

theorem server_name (env : Env) (st : Time) (u : Url) : (checkStatusFromServer env st u).server = u := by
  obtain ⟨_, _, h, _⟩ := server_eq_sr env st u
  rw [h]; rfl

theorem indecisive_unknown {env : Env} {st : Time} {u : Url}
    (h : decisive (checkStatusFromServer env st u) = false) : (checkStatusFromServer env st u).result = .unknown := by
  obtain ⟨res, _, hs, hres⟩ := server_eq_sr env st u
  cases res <;> simp_all [decisive, sr]

theorem server_result_iff (env : Env) (st : Time) (u : Url) {v : Result} (hv : v ≠ .unknown) :
    (checkStatusFromServer env st u).result = v ↔
      env.urlKind u = .scheme true ∧ ∃ r, env.exchange u = .resp r ∧ (respResult env.now st u r).result = v := by
  unfold checkStatusFromServer
  split
  · simp [sr, hv.symm, *]
  · simp [sr, hv.symm, *]
  · split <;> simp [sr, hv.symm, *]

theorem C04_server_ok_iff (env : Env) (st : Time) (u : Url) :
    (checkStatusFromServer env st u).result = .ok ↔ OcspEvidence env st u := by
  simp only [server_result_iff env st u (v := .ok) (by decide), (respResult_iff ..).1, OcspEvidence]

theorem C04_server_revoked_iff (env : Env) (st : Time) (u : Url) :
    (checkStatusFromServer env st u).result = .revoked ↔ OcspRevokes env st u := by
  simp only [server_result_iff env st u (v := .revoked) (by decide), (respResult_iff ..).2, OcspRevokes]

theorem serverLoop_eq (env : Env) (st : Time) (us : List Url) (acc : List ServerResult) :
    serverLoop env st us acc =
      match us.find? (fun u => decisive (checkStatusFromServer env st u)) with
      | some u => { result := (checkStatusFromServer env st u).result,
                    servers := [checkStatusFromServer env st u], method := .ocsp }
      | none => serverLoop env st [] ((us.map (checkStatusFromServer env st)).reverse ++ acc) := by
  rw [Proofs.firstStop_loop (L := serverLoop env st) (entry := checkStatusFromServer env st)
    (stop := fun u => decisive (checkStatusFromServer env st u)) (fun _ _ _ => rfl) us acc]
  cases us.find? _ <;> rfl

theorem ocsp_certCheckStatus_eq (env : Env) (urls : List Url) (st : Time) (hne : urls ≠ []) :
    certCheckStatus env urls st =
      match urls.find? (fun u => decisive (checkStatusFromServer env st u)) with
      | some u => { result := (checkStatusFromServer env st u).result,
                    servers := [checkStatusFromServer env st u], method := .ocsp }
      | none => { result := .unknown, servers := urls.map (checkStatusFromServer env st), method := .ocsp } := by
  rw [certCheckStatus, if_neg (by simpa using hne), serverLoop_eq]
  split
  · rfl
  · rename_i hf
    -- the verdict is the last entry's, and every entry is indecisive, hence Unknown
    have hu : ∀ s ∈ (urls.map (checkStatusFromServer env st)).reverse, s.result = .unknown := by
      simp only [List.mem_reverse, List.mem_map]
      rintro s ⟨u, hu, rfl⟩
      exact indecisive_unknown (by simpa using List.find?_eq_none.mp hf u hu)
    simp only [serverLoop, List.append_nil, List.reverse_reverse]
    cases h : (urls.map (checkStatusFromServer env st)).reverse with
    | nil => rfl
    | cons s t => simp [hu s (by simp [h])]

theorem serverLoop_spec (env : Env) (st : Time) (us : List Url) (acc : List ServerResult) :
    let r := serverLoop env st us acc
    (∃ pre u post, us = pre ++ u :: post ∧ (∀ v ∈ pre, decisive (checkStatusFromServer env st v) = false) ∧
        decisive (checkStatusFromServer env st u) = true ∧
        r = { result := (checkStatusFromServer env st u).result, servers := [checkStatusFromServer env st u], method := .ocsp }) ∨
    ((∀ v ∈ us, decisive (checkStatusFromServer env st v) = false) ∧
        r.servers = acc.reverse ++ us.map (checkStatusFromServer env st) ∧ r.method = .ocsp ∧
        r.result = (match (us.map (checkStatusFromServer env st)).reverse ++ acc with | s :: _ => s.result | [] => .unknown)) := by
  simp only [serverLoop_eq env st us acc]
  cases hf : us.find? (fun u => decisive (checkStatusFromServer env st u)) with
  | some u =>
    obtain ⟨hu, pre, post, hus, hpre⟩ := List.find?_eq_some_iff_append.mp hf
    exact Or.inl ⟨pre, u, post, hus, by simpa using hpre, hu, rfl⟩
  | none => exact Or.inr ⟨by simpa using hf, by simp [serverLoop], rfl, rfl⟩

theorem ocsp_verdict_iff (env : Env) (urls : List Url) (st : Time) {v : Result} (hv : v = .ok ∨ v = .revoked) :
    (certCheckStatus env urls st).result = v ↔
      ∃ pre u post, urls = pre ++ u :: post ∧ (checkStatusFromServer env st u).result = v ∧
        ∀ w ∈ pre, decisive (checkStatusFromServer env st w) = false := by
  constructor
  · intro h
    have hne : urls ≠ [] := by rintro rfl; rcases hv with rfl | rfl <;> cases h
    rw [ocsp_certCheckStatus_eq env urls st hne] at h
    split at h
    · rename_i u hf
      obtain ⟨_, pre, post, hus, hpre⟩ := List.find?_eq_some_iff_append.mp hf
      exact ⟨pre, u, post, hus, h, by simpa using hpre⟩
    · rcases hv with rfl | rfl <;> cases h
  · rintro ⟨pre, u, post, hus, hu, hpre⟩
    -- an OK or Revoked answer is decisive, so `u` is the first decisive responder
    have hf : urls.find? (fun u => decisive (checkStatusFromServer env st u)) = some u :=
      List.find?_eq_some_iff_append.mpr
        ⟨by rcases hv with rfl | rfl <;> simp [decisive, hu], pre, post, hus, by simpa using hpre⟩
    rw [ocsp_certCheckStatus_eq env urls st (by rw [hus]; simp), hf]
    exact hu

theorem ocsp_outcome (env : Env) (urls : List Url) (st : Time) (hne : urls ≠ []) :
    ((certCheckStatus env urls st).result = .ok ∧ ∃ u ∈ urls, OcspEvidence env st u) ∨
    ((certCheckStatus env urls st).result = .revoked ∧ ∃ u ∈ urls, OcspRevokes env st u) ∨
    (certCheckStatus env urls st).result = .unknown := by
  rw [ocsp_certCheckStatus_eq env urls st hne]
  cases hf : urls.find? (fun u => decisive (checkStatusFromServer env st u)) with
  | none => exact .inr (.inr rfl)
  | some u =>
    have hu := List.mem_of_find?_eq_some hf
    obtain ⟨res, _, hs, hres⟩ := server_eq_sr env st u
    simp only [← C04_server_ok_iff, ← C04_server_revoked_iff]
    cases hr : (checkStatusFromServer env st u).result with
    | ok => exact .inl ⟨rfl, u, hu, hr⟩
    | revoked => exact .inr (.inl ⟨rfl, u, hu, hr⟩)
    | unknown => exact .inr (.inr rfl)
    | nonRevokable => rw [hs] at hr; exact absurd hr hres

/-- **C04**: the certificate comes out OK on the strength of OCSP only if some configured
    responder delivered authentic current evidence of good standing, and every responder before
    it was indecisive (error, forged, stale, …) — for every environment and responder list -/
theorem C04_ok (env : Env) (urls : List Url) (st : Time)
    (h : (certCheckStatus env urls st).result = .ok) :
    ∃ pre u post, urls = pre ++ u :: post ∧ OcspEvidence env st u ∧
      ∀ v ∈ pre, decisive (checkStatusFromServer env st v) = false := by
  simpa only [C04_server_ok_iff] using (ocsp_verdict_iff env urls st (.inl rfl)).mp h

/-- **C04 (never OK without evidence)**: unsigned, forged, foreign-signed (no `Resp` exists),
    unauthorised delegate, expired, no next-update, status Unknown, errors — none yields OK -/
theorem C04_never_ok (env : Env) (urls : List Url) (st : Time)
    (h : ∀ u ∈ urls, ¬ OcspEvidence env st u) : (certCheckStatus env urls st).result ≠ .ok := by
  intro hok
  obtain ⟨pre, u, post, h1, h2, _⟩ := C04_ok env urls st hok
  exact h u (h1 ▸ List.mem_append_cons_self) h2

/-- **C04 (Revoked)**: Revoked exactly when the first decisive responder gave an authentic current
    Revoked answer that the signing time does not excuse -/
theorem C04_revoked_iff (env : Env) (urls : List Url) (st : Time) :
    (certCheckStatus env urls st).result = .revoked ↔
      ∃ pre u post, urls = pre ++ u :: post ∧ OcspRevokes env st u ∧
        ∀ v ∈ pre, decisive (checkStatusFromServer env st v) = false := by
  simp only [ocsp_verdict_iff env urls st (.inr rfl), C04_server_revoked_iff]

theorem OcspEvidence.goodFor {env : Env} {st : Time} {u : Url} {r : Resp}
    (h : OcspEvidence env st u) (hx : env.exchange u = .resp r) : GoodFor st env.now r := by
  obtain ⟨_, r', hr', g⟩ := h
  rw [hx] at hr'; cases hr'; exact g

/-- a response without next-update (zero time) never yields OK, once the clock is past year 1 -/
theorem C04_no_next_update (env : Env) (st : Time) (u : Url) (r : Resp)
    (hnow : env.now > zeroT) (hx : env.exchange u = .resp r) (hz : r.nextUpdate = zeroT) :
    ¬ OcspEvidence env st u :=
  fun h => (h.goodFor hx).2.1 (hz ▸ hnow)

/-- status Unknown never yields OK -/
theorem C04_unknown_status (env : Env) (st : Time) (u : Url) (r : Resp)
    (hx : env.exchange u = .resp r) (hs : r.status = .unknown) : ¬ OcspEvidence env st u := fun h => by
  rcases (h.goodFor hx).2.2 with g | ⟨g, _⟩ <;> rw [hs] at g <;> cases g

/-- a delegate that is neither the issuer nor authorised for OCSP signing (e.g. the checked
    certificate itself, or a sibling) never yields OK -/
theorem C04_unauthorised_delegate (env : Env) (st : Time) (u : Url) (r : Resp)
    (hx : env.exchange u = .resp r) (hs : r.signer = .delegate false false) : ¬ OcspEvidence env st u := fun h => by
  rcases (h.goodFor hx).1 with g | ⟨_, _, g, g'⟩ <;> rw [hs] at g <;> cases g
  rcases g' with g' | g' <;> cases g'

/-- **C04 (request encoding)**: POST exactly when the base64 request, or its URL-escaped form,
    reaches 255 bytes -/
theorem C04_request_method (b64Len escapedLen : Nat) :
    requestMethod b64Len escapedLen = .post ↔ (255 ≤ b64Len ∨ 255 ≤ escapedLen) := by
  unfold requestMethod
  by_cases h1 : b64Len ≥ 255
  · simp [h1]
  · by_cases h2 : escapedLen < 255
    · simp [h1, h2]
    · simp [h1, h2]; omega

/-! ### non-vacuity, and the repaired defects F4 / F5 -/
private def goodResp : Resp := { status := .good, nextUpdate := 500, invDate := none, signer := .issuer }
private def envOf (x : Exchange) : Env := { urlKind := fun u => if u = "bad" then .unparsable else .scheme true, exchange := fun _ => x, now := 100 }
example : (certCheckStatus (envOf (.resp goodResp)) ["http://a"] 0).result = .ok := by decide
-- F4 witness: Good, signed by an embedded certificate without OCSPSigning (the leaf itself / a sibling)
example : (certCheckStatus (envOf (.resp { goodResp with signer := .delegate false false })) ["http://a"] 0).result = .unknown := by decide
example : (certCheckStatus (envOf (.resp { goodResp with signer := .delegate false true })) ["http://a"] 0).result = .ok := by decide
-- F5 witness: unparsable URL is Unknown, not a panic
example : (certCheckStatus (envOf (.resp goodResp)) ["bad"] 0).result = .unknown := by decide
-- now = nextUpdate is current; now > nextUpdate is not
example : (certCheckStatus (envOf (.resp { goodResp with nextUpdate := 100 })) ["http://a"] 0).result = .ok := by decide
example : (certCheckStatus (envOf (.resp { goodResp with nextUpdate := 99 })) ["http://a"] 0).result = .unknown := by decide
-- revoked, invalidity date after the signing time
example : (certCheckStatus (envOf (.resp { goodResp with status := .revoked, invDate := some (some 60) })) ["http://a"] 50).result = .ok := by decide
example : (certCheckStatus (envOf (.resp { goodResp with status := .revoked, invDate := some (some 50) })) ["http://a"] 50).result = .revoked := by decide

end NotationCore.Props
