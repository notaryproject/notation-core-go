import NotationCore.Model.EnvState
/-!
  C20 — an envelope object reflects its last successful signing or its parsed bytes.
-/
namespace NotationCore.Props
open EnvState

theorem read_abs (s : St) (ok : Msg → Bool) : EnvState.read s ok = absRead (abs s) ok := by
  unfold EnvState.read absRead abs
  cases s.rawPresent <;> cases s.inner <;> simp

/-- one step of the object is one step of the reference machine -/
theorem step_refines (s : St) (op : Op) :
    abs (step s op).1 = (absStep (abs s) op).1 ∧ (step s op).2 = (absStep (abs s) op).2 := by
  cases op with
  | sign r => cases r <;> simp [step, absStep, abs] <;> rfl
  | verify => simp [step, absStep, read_abs]
  | content => simp [step, absStep, read_abs]

/-- **C20 (refinement)**: over *any* operation sequence the object behaves exactly like the
    reference machine "nothing / shows message m" — same outputs step by step -/
theorem C20_refines (s : St) (ops : List Op) :
    abs (run s ops).1 = (absRun (abs s) ops).1 ∧ (run s ops).2 = (absRun (abs s) ops).2 := by
  induction ops generalizing s with
  | nil => simp [run, absRun]
  | cons op ops ih =>
    obtain ⟨h1, h2⟩ := step_refines s op
    obtain ⟨i1, i2⟩ := ih (step s op).1
    simp only [run, absRun]
    rw [← h1, ← h2]
    exact ⟨i1, by rw [i2]⟩

/-- **C20 (reads are pure)**: verification and content extraction change nothing, and repeating
    them gives equal results -/
theorem C20_reads_pure (s : St) :
    (step s .verify).1 = s ∧ (step s .content).1 = s ∧
    (step (step s .verify).1 .verify).2 = (step s .verify).2 ∧
    (step (step s .content).1 .content).2 = (step s .content).2 := by
  simp [step]

/-- without a good signing the reference machine stays at `a0` or falls to "nothing", and answers
    a signing error or what a read of one of the two gives -/
theorem absStep_noGood (a0 a : Abs) (ha : a = a0 ∨ a = none) (op : Op) (hop : ∀ m, op ≠ .sign (.good m)) :
    ((absStep a op).1 = a0 ∨ (absStep a op).1 = none) ∧
    ((absStep a op).2 = .signErr ∨ (absStep a op).2 = .notFound ∨ ∃ ok, (absStep a op).2 = absRead a0 ok) := by
  have hread (ok : Msg → Bool) : absRead a ok = .notFound ∨ ∃ ok', absRead a ok = absRead a0 ok' := by
    rcases ha with rfl | rfl
    · exact .inr ⟨ok, rfl⟩
    · exact .inl rfl
  cases op with
  | sign r =>
    cases r with
    | early => exact ⟨ha, .inl rfl⟩
    | late m => exact ⟨.inr rfl, .inl rfl⟩
    | good m => exact absurd rfl (hop m)
  | verify => exact ⟨ha, .inr (hread (·.verifies))⟩
  | content => exact ⟨ha, .inr (hread (·.readable))⟩

theorem absRun_noGood (a0 : Abs) (ops : List Op) (hno : ∀ m, Op.sign (.good m) ∉ ops) (a : Abs) (ha : a = a0 ∨ a = none) :
    ∀ o ∈ (absRun a ops).2, o = .signErr ∨ o = .notFound ∨ ∃ ok, o = absRead a0 ok := by
  induction ops generalizing a with
  | nil => intro o ho; cases ho
  | cons op ops ih =>
    obtain ⟨h1, h2⟩ := absStep_noGood a0 a ha op (fun m h => hno m (h ▸ List.mem_cons_self ..))
    intro o ho
    rcases List.mem_cons.mp ho with rfl | ho
    · exact h2
    · exact ih (fun m h => hno m (List.mem_cons_of_mem _ h)) _ h1 o ho

/-- **C20 (never signed or parsed)**: from a new object, without a good signing, every read says
    that no signature is present -/
theorem C20_never_signed (ops : List Op) (hno : ∀ m, Op.sign (.good m) ∉ ops) :
    ∀ o ∈ (run new ops).2, o = .signErr ∨ o = .notFound := by
  intro o ho
  rw [(C20_refines new ops).2] at ho
  rcases absRun_noGood none ops hno (abs new) (.inl rfl) o ho with h | h | ⟨ok, h⟩
  · exact .inl h
  · exact .inr h
  · exact .inr h

/-- what the object shows after a signing attempt -/
theorem C20_after_sign (s : St) (r : Req) :
    (∀ m, r = .good m → abs (step s (.sign r)).1 = some m ∧ (step s (.sign r)).2 = .signOk m.content) ∧
    (r = .early → abs (step s (.sign r)).1 = abs s ∧ (step s (.sign r)).2 = .signErr) ∧
    (∀ m, r = .late m → abs (step s (.sign r)).1 = none ∧ (step s (.sign r)).2 = .signErr) := by
  refine ⟨?_, ?_, ?_⟩
  · intro m h; subst h; simp [step, abs]
  · intro h; subst h; simp [step]
  · intro m h; subst h; simp [step, abs]

/-- **C20 (a failed request never becomes observable)**: after a signing attempt that returns an
    error, and until the next successful signing, every read shows either what the object showed
    before the attempt or that no signature is present — whatever the failed request was -/
theorem C20_failed_request_invisible (s : St) (r : Req) (hfail : ∀ m, r ≠ .good m)
    (ops : List Op) (hno : ∀ m, Op.sign (.good m) ∉ ops) :
    ∀ o ∈ (run (step s (.sign r)).1 ops).2,
      o = .signErr ∨ o = .notFound ∨
      (∃ m, abs s = some m ∧ (o = .shows m.content ∨ o = .readErr)) := by
  -- after the failed attempt the abstract state is the previous one or nothing
  have hstate : abs (step s (.sign r)).1 = abs s ∨ abs (step s (.sign r)).1 = none := by
    cases r with
    | early => exact .inl rfl
    | late m => exact .inr rfl
    | good m => exact absurd rfl (hfail m)
  intro o ho
  rw [(C20_refines _ ops).2] at ho
  rcases absRun_noGood (abs s) ops hno _ hstate o ho with h | h | ⟨ok, h⟩
  · exact .inl h
  · exact .inr (.inl h)
  · cases hs : abs s with
    | none => rw [hs] at h; exact .inr (.inl h)
    | some m =>
      rw [hs] at h
      refine .inr (.inr ⟨m, rfl, ?_⟩)
      rw [h, absRead]
      cases ok m <;> simp

/-- **C20 (bytes match)**: after a good signing of `m` reads show `m` — the same a parse of the
    returned bytes shows -/
theorem C20_bytes_match (s : St) (m : Msg) :
    abs (step s (.sign (.good m))).1 = abs (parsed m) := by
  simp [step, abs, parsed]

/-! ### non-vacuity; the repaired defect F12 -/
private def A : Msg := ⟨1, true, true⟩
private def B : Msg := ⟨2, true, true⟩
-- F12 witness: sign A, sign B failing late, content — the unrepaired object answered `shows 2`
example : (run new [.sign (.good A), .sign (.late B), .content, .verify]).2 = [.signOk 1, .signErr, .notFound, .notFound] := by decide
example : (run new [.sign (.good A), .sign .early, .content]).2 = [.signOk 1, .signErr, .shows 1] := by decide
example : (run (parsed ⟨7, false, true⟩) [.verify, .content, .sign (.good B), .verify]).2 = [.readErr, .shows 7, .signOk 2, .shows 2] := by decide

end NotationCore.Props
