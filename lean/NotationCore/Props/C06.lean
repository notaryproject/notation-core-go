import NotationCore.Props.C11
/-!
  C06 — revocation checking fails closed under every network, server and cache fault.

  Faults are not a special mechanism of the model: `env.ocsp.exchange`, `env.ocsp.urlKind`,
  `env.crl.fetch` are *arbitrary functions* into outcome types whose error constructors are the
  fault classes (transport error, timeout, cancellation, non-200 status, empty / truncated /
  oversized / garbage body, OCSP error status, unsupported scheme, cache failure → `.err _` /
  `.fail`).  A theorem for all environments therefore covers every assignment of faults.
-/
namespace NotationCore.Props
open Revocation

/-- some source actually delivered authentic evidence of good standing (C04's and C05's notions) -/
def Evidence (env : Env) (c : Cert) (st : Time) : Prop :=
  (∃ u ∈ c.ocsp, OcspEvidence env.ocsp st u) ∨
  (c.crlDPs ≠ [] ∧ ∀ u ∈ c.crlDPs, DPGood env.crl c.toCrl st u)

/-- what has to be the case for a certificate to get a verdict -/
def Justified (env : Env) (c : Cert) (st : Time) : Result → Prop
  | .ok => Evidence env c st
  | .revoked => (∃ u ∈ c.ocsp, OcspRevokes env.ocsp st u) ∨ (∃ u ∈ c.crlDPs, DPRevokes env.crl c.toCrl st u)
  | .unknown => c.ocsp ≠ [] ∨ c.crlDPs ≠ []
  | .nonRevokable => c.ocsp = [] ∧ c.crlDPs = []

/-- **C06** as one statement -/
theorem certCheck_justified (env : Env) (c : Cert) (st : Time) :
    Justified env c st (certCheck env c st).result := by
  -- the CRL outcome decides both the CRL-only and the fallback branch
  have K : c.crlDPs ≠ [] → Justified env c st (Crl.certCheckStatus env.crl c.toCrl st).result := fun hk => by
    rcases loop_cases (crl_loop env.crl c.toCrl st hk) with ⟨h, g⟩ | ⟨_, u, _, hus, _, _, ⟨h, g⟩ | ⟨h, _⟩⟩ <;> rw [h]
    · exact .inr ⟨hk, g⟩
    · exact .inr ⟨u, (show c.crlDPs = _ from hus) ▸ List.mem_append_cons_self, g⟩
    · exact .inr hk
  refine certCheck_cases env c st (P := fun r _ => Justified env c st r.result)
    (fun ho hk => ⟨ho, hk⟩) (fun _ => K) (fun ho _ => ?_) (fun _ _ => K)
  rcases ocsp_outcome env.ocsp c.ocsp st ho with ⟨h, g⟩ | ⟨h, g⟩ | h <;> rw [h]
  · exact .inl g
  · exact .inl g
  · exact .inl ho

/-- **C06 (fail closed)**: a certificate that names a revocation source comes out OK only on
    authentic evidence of good standing -/
theorem C06_fail_closed (env : Env) (c : Cert) (st : Time)
    (h : (certCheck env c st).result = .ok) : Evidence env c st :=
  (h ▸ certCheck_justified env c st : Justified env c st .ok)

/-- **C06**: a certificate naming a source is never NonRevokable -/
theorem C06_never_nonrevokable (env : Env) (c : Cert) (st : Time)
    (hsrc : c.ocsp ≠ [] ∨ c.crlDPs ≠ []) : (certCheck env c st).result ≠ .nonRevokable := fun h =>
  have j : Justified env c st .nonRevokable := h ▸ certCheck_justified env c st
  hsrc.elim (· j.1) (· j.2)

/-- **C06**: Revoked only when authentic evidence of revocation was delivered -/
theorem C06_revoked_needs_evidence (env : Env) (c : Cert) (st : Time)
    (h : (certCheck env c st).result = .revoked) :
    (∃ u ∈ c.ocsp, OcspRevokes env.ocsp st u) ∨ (∃ u ∈ c.crlDPs, DPRevokes env.crl c.toCrl st u) :=
  (h ▸ certCheck_justified env c st : Justified env c st .revoked)

/-- **C06 (standalone OCSP entry point)**: with a responder named, never NonRevokable and OK only
    on OCSP evidence -/
theorem C06_ocsp_entry (env : Env) (c : Cert) (st : Time) (hne : c.ocsp ≠ []) :
    (certCheckOcspOnly env c st).result ≠ .nonRevokable ∧
    ((certCheckOcspOnly env c st).result = .ok → ∃ u ∈ c.ocsp, OcspEvidence env.ocsp st u) := by
  unfold certCheckOcspOnly
  rcases ocsp_outcome env.ocsp c.ocsp st hne with ⟨h, g⟩ | ⟨h, _⟩ | h <;> rw [h] <;> simp
  exact g

theorem ocsp_loop_congr (e e' : Ocsp.Env) (st : Time) (us : List Url) (acc : List ServerResult)
    (h : ∀ u ∈ us, Ocsp.checkStatusFromServer e st u = Ocsp.checkStatusFromServer e' st u) :
    Ocsp.serverLoop e st us acc = Ocsp.serverLoop e' st us acc := by
  induction us generalizing acc with
  | nil => rfl
  | cons u us ih =>
    simp only [Ocsp.serverLoop, h u (List.mem_cons_self ..)]
    split
    · rfl
    · exact ih _ fun v hv => h v (List.mem_cons_of_mem _ hv)

theorem crl_loop_congr (e e' : Crl.Env) (c : Crl.RCert) (st : Time) (us : List Url) (acc : List ServerResult)
    (h : ∀ u ∈ us, Crl.checkDP e c st u = Crl.checkDP e' c st u) :
    Crl.loop e c st us acc = Crl.loop e' c st us acc := by
  induction us generalizing acc with
  | nil => rfl
  | cons u us ih =>
    simp only [Crl.loop, h u (List.mem_cons_self ..)]
    split
    · rfl
    · rfl
    · exact ih _ fun v hv => h v (List.mem_cons_of_mem _ hv)

/-- **C06 (isolation)**: two environments that agree on this certificate's own responder and
    distribution-point URLs (and on the clock) give this certificate the same result — whatever
    faults they inject anywhere else -/
theorem C06_isolation (env env' : Env) (c : Cert) (st : Time)
    (ho : ∀ u ∈ c.ocsp, env.ocsp.urlKind u = env'.ocsp.urlKind u ∧ env.ocsp.exchange u = env'.ocsp.exchange u)
    (hk : ∀ u ∈ c.crlDPs, env.crl.fetch u = env'.crl.fetch u)
    (hn1 : env.ocsp.now = env'.ocsp.now) (hn2 : env.crl.now = env'.crl.now) :
    certCheck env c st = certCheck env' c st := by
  have e1 : Ocsp.certCheckStatus env.ocsp c.ocsp st = Ocsp.certCheckStatus env'.ocsp c.ocsp st := by
    unfold Ocsp.certCheckStatus
    rw [ocsp_loop_congr env.ocsp env'.ocsp st c.ocsp [] fun u hu => by
      simp only [Ocsp.checkStatusFromServer, (ho u hu).1, (ho u hu).2, hn1]]
  have e2 : Crl.certCheckStatus env.crl c.toCrl st = Crl.certCheckStatus env'.crl c.toCrl st := by
    unfold Crl.certCheckStatus
    rw [crl_loop_congr env.crl env'.crl c.toCrl st c.toCrl.crlDPs [] fun u hu => by
      simp only [Crl.checkDP, hk u hu, hn2]]
  unfold certCheck
  rw [e1, e2]

/-- in a chain, the result at position `k` is the check of that certificate in its own
    environment: changing another certificate's environment cannot change it -/
theorem C06_positions_independent (cs cs' : List (Env × Cert)) (st : Time) (k : Nat)
    (hk : k < cs.length) (hk' : k < cs'.length) (h : cs[k] = cs'[k]) :
    (results certCheck cs st)[k]'(by simp [results]; omega) = (results certCheck cs' st)[k]'(by simp [results]; omega) := by
  unfold results
  rw [List.getElem_append_left (by simpa using hk), List.getElem_append_left (by simpa using hk')]
  simp [h]

end NotationCore.Props
