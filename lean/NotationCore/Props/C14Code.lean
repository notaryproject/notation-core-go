import NotationCore.Props.C14
import NotationCore.Tie.Code.X509TsWalk
/-!
  C14 stated about the code: the syntax tree of `ValidateTimestampingCertChain` and of its
  callees, regenerated from `/repo/x509` on every run, returns a nil error — under the semantics of
  `GoSem` and the crypto/x509 primitives of `Tie.Code.X509.prims` — exactly on the chains on which
  the model `validateTimestamping` returns `ok`, hence (theorem `C14`) exactly on the conforming
  TSA chains; and it always returns.
-/
namespace NotationCore.Props
open GoSem Chain Spec Tie.Code.X509

/-- **C14 about the regenerated code** -/
theorem C14_code (sig : Sig) (sigSelf : SigSelf) (n : Nat) (chain : List CertX)
    (hag : ∀ x ∈ chain, ExtsAgree x.1 x.2) :
    sem (prims sig sigSelf) funcs (n + 4) "ValidateTimestampingCertChain" [.list (chain.map cvp)] = some .nil
      ↔ Conforms .timestamping sig sigSelf (chain.map (·.1)) none := by
  rw [ValidateTimestampingCertChain_accepts_iff sig sigSelf n chain hag]
  exact validate_iff _ _ _ _ _

theorem C14_code_total (sig : Sig) (sigSelf : SigSelf) (n : Nat) (chain : List CertX)
    (hag : ∀ x ∈ chain, ExtsAgree x.1 x.2) :
    ∃ v, sem (prims sig sigSelf) funcs (n + 4) "ValidateTimestampingCertChain" [.list (chain.map cvp)] = some v :=
  ⟨_, ValidateTimestampingCertChain_eq sig sigSelf n chain hag⟩

end NotationCore.Props
