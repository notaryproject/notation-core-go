import NotationCore.Props.C02
/-!
  C01 — verified envelope content was signed by the leaf certificate's key.

  Abstract envelopes: for JWS the protected header is its member list and `sigok` says, per
  algorithm name, whether the signature bytes verify over `protected || "." || payload` under the
  key of `x5c[0]`; for COSE `sigok` is that statement for Sig_structure under the algorithm the
  key dictates.  Byte-level decoding of the container is a primitive.
-/
namespace NotationCore.Props
open Base Proofs.Envelope Proofs.Jws

/-- **C01 (JWS)**: if verification succeeds then (1) the first chain certificate parses and is the
    leaf, (2) the signature verifies under its key for the algorithm `a` the signed header declares,
    `a` being the name of the algorithm that key dictates and that is reported, and (3) the
    returned content is the decoding `contentOf` of exactly the protected members and payload the
    signature covers. -/
theorem C01_jws (e : Jws.Env) (ci : ChainInfo) (c : Content)
    (hcons : LeafConsistent e.leafKey ci)
    (hv : wrapRead false ci (Jws.verify e) = .val c) :
    (∃ id rest, e.x5c = some id :: rest) ∧
    (∃ row ∈ table, row.1 = e.leafKey ∧ c.alg = row.2.1 ∧
      ∃ ms h, e.prot = .obj ms ∧ Jws.jwtAlg ms = some row.2.2.1 ∧ e.sigok.lookup row.2.2.1 = some true ∧
        Jws.decodeHdr ms {} = some h ∧ c = Jws.contentOf e ms h row.2.1) ∧
    e.protDot = false ∧ e.payDot = false ∧ e.sigDot = false := by
  obtain ⟨row, hrow, ms, h, h1, hp, hj, hs, r, rfl⟩ := jws_verified e ci c hcons hv
  obtain ⟨hleaf, hjwt, _⟩ := (verify_eq_val_iff e _).mp ((wrapRead_eq_val_iff ..).mp hv).2.1
  exact ⟨hleaf, ⟨row, hrow, h1, rfl, ms, h, hp, hj, hs, r.decodes, rfl⟩, ((verifyJWT_iff e).mp hjwt).1⟩

/-- **C01 (COSE)** -/
theorem C01_cose (e : Cose.Env) (ci : ChainInfo) (c : Content)
    (hv : wrapRead false ci (Cose.verify e) = .val c) :
    (∃ id rest, e.x5c = some (.bytes (some id) :: rest)) ∧
    (∃ row ∈ table, row.1 = e.leafKey ∧ c.alg = row.2.1 ∧ Cose.headerAlg e = some row.2.2.2.1 ∧ e.sigok = true) ∧
    e.payloadNil = false ∧
    ∃ cty scheme st expiry, c = Cose.contentOf e cty scheme c.alg st expiry ∧
      Cose.ctyOf e = some cty ∧ Cose.schemeOf e = some scheme ∧ Cose.signingTimeOf e scheme = some st ∧
      Cose.expiryOf e = some expiry := by
  obtain ⟨cty, scheme, st, ex, row, S, rfl⟩ := (cose_verify_iff e ci c).mp hv
  obtain ⟨id, rest, hx, _⟩ := S.certs
  exact ⟨⟨id, rest, hx⟩, ⟨row, S.keyRow.1, S.keyRow.2, rfl, headerAlg_eq_some.mpr S.alg, S.signature.2⟩, S.payload.1,
    cty, scheme, st, ex, rfl, ctyOf_eq_some.mpr S.contentType, schemeOf_eq_some.mpr S.schemeHdr,
    signingTimeOf_eq_some.mpr S.time, expiryOf_eq_some.mpr (S.expiry.imp_right (·.1))⟩

/-- the *signed* part of a content: everything except the unsigned attributes and the chain -/
def signedPart (c : Content) : String × Nat × String × String × Time × Time × List Attr × Nat :=
  (c.payload, c.payloadLen, c.cty, c.scheme, c.signingTime, c.expiry, c.extAttrs, c.alg)

/-- **C01 (JWS: signed content is a function of the signed bytes)**: two envelopes with the same
    protected members and payload give the same signed content whenever both are readable —
    whatever their signatures, chains, agents and timestamp tokens are.  Hence no splice of parts
    of different envelopes can make verified content differ from what the signature covers. -/
theorem C01_jws_signed_part_function_of_tbs (e e' : Jws.Env) (c c' : Content)
    (hp : e.prot = e'.prot) (h1 : e.payload = e'.payload) (h2 : e.payloadLen = e'.payloadLen)
    (hc : Jws.content e = .val c) (hc' : Jws.content e' = .val c') : signedPart c = signedPart c' := by
  obtain ⟨ms, h, alg, r, rfl⟩ := (content_eq_val_iff e c).mp hc
  obtain ⟨ms', h', alg', r', rfl⟩ := (content_eq_val_iff e' c').mp hc'
  obtain ⟨rfl, rfl, rfl⟩ := r.unique r' hp
  simp [signedPart, Jws.contentOf, h1, h2]

theorem C01_cose_signed_part_function_of_tbs (e e' : Cose.Env) (c c' : Content)
    (hp : e.prot = e'.prot) (h1 : e.payload = e'.payload) (h2 : e.payloadLen = e'.payloadLen)
    (hc : Cose.content e = .val c) (hc' : Cose.content e' = .val c') : signedPart c = signedPart c' := by
  obtain ⟨cty, scheme, alg, st, ex, r, rfl⟩ := (cose_content_eq_val_iff e c).mp hc
  obtain ⟨cty', scheme', alg', st', ex', r', rfl⟩ := (cose_content_eq_val_iff e' c').mp hc'
  obtain ⟨rfl, rfl, rfl, rfl, rfl⟩ := r.unique r' hp
  simp [signedPart, Cose.contentOf, Cose.extAttrsOf, Cose.critLabels, hp, h1, h2]

def setUnsigned (agent tst : String) : Out Content → Out Content
  | .val c => .val { c with agent := agent, tst := tst }
  | .err x => .err x
  | .panic s => .panic s

theorem ite_eq_apply_ite {α β} (f : α → β) {c : Prop} [Decidable c] {a b : β} {a' b' : α} (ha : a = f a') (hb : b = f b') :
    (if c then a else b) = f (if c then a' else b') := by
  rw [apply_ite f, ha, hb]

/-! No test of the readers looks at the agent or the timestamp token, and `contentOf` copies them: once
    the updated envelope's other fields are reduced to the original's (`dsimp only`), both sides take
    the same branch at every `match` and `if`, and in each branch they agree by computation. -/

theorem wrapRead_setUnsigned (ci : ChainInfo) (agent tst : String) (o : Out Content) :
    wrapRead false ci (setUnsigned agent tst o) = setUnsigned agent tst (wrapRead false ci o) := by
  cases o with
  | val c => exact ite_eq_apply_ite (c := validateEnvelopeContent ci c = true) _ rfl rfl
  | err x => rfl
  | panic s => rfl

theorem jws_content_setUnsigned (e : Jws.Env) (agent tst : String) :
    Jws.content { e with agent := agent, tst := tst } = setUnsigned agent tst (Jws.content e) := by
  dsimp only [Jws.content, Jws.gates1, Jws.gates2]
  split
  · rfl
  split
  · rfl
  refine ite_eq_apply_ite _ rfl ?_
  split
  · rfl
  exact ite_eq_apply_ite _ rfl rfl

theorem jws_verify_setUnsigned (e : Jws.Env) (agent tst : String) :
    Jws.verify { e with agent := agent, tst := tst } = setUnsigned agent tst (Jws.verify e) := by
  dsimp only [Jws.verify, Jws.verifyJWT]
  split
  · rfl
  · rfl
  exact ite_eq_apply_ite _ (jws_content_setUnsigned e agent tst) rfl

/-- **C01 (only unsigned parts may vary)**, JWS: changing the signing agent and the timestamp
    token changes nothing but those two fields of the result — verdict included -/
theorem C01_jws_unsigned_parts_free (e : Jws.Env) (ci : ChainInfo) (agent tst : String) :
    wrapRead false ci (Jws.verify { e with agent := agent, tst := tst }) =
      setUnsigned agent tst (wrapRead false ci (Jws.verify e)) := by
  rw [jws_verify_setUnsigned, wrapRead_setUnsigned]

theorem cose_content_setUnsigned (e : Cose.Env) (agent tst : String) :
    Cose.content { e with agent := agent, tst := tst } = setUnsigned agent tst (Cose.content e) := by
  dsimp only [Cose.content, Cose.ctyOf, Cose.schemeOf, Cose.critOK, Cose.algOf, Cose.headerAlg, Cose.signingTimeOf,
    Cose.expiryOf, Cose.certsOK]
  split
  · refine ite_eq_apply_ite _ ?_ ?_
    · rfl
    split
    next h1 h2 h3 =>
      rw [h1, h2, h3]
      exact ite_eq_apply_ite _ rfl rfl
    · rfl
  · rfl

theorem cose_verify_setUnsigned (e : Cose.Env) (agent tst : String) :
    Cose.verify { e with agent := agent, tst := tst } = setUnsigned agent tst (Cose.verify e) := by
  dsimp only [Cose.verify, Cose.coseVerify, Cose.headerAlg]
  split
  · split
    · rfl
    exact ite_eq_apply_ite _ (cose_content_setUnsigned e agent tst) rfl
  · rfl

theorem C01_cose_unsigned_parts_free (e : Cose.Env) (ci : ChainInfo) (agent tst : String) :
    wrapRead false ci (Cose.verify { e with agent := agent, tst := tst }) =
      setUnsigned agent tst (wrapRead false ci (Cose.verify e)) := by
  rw [cose_verify_setUnsigned, wrapRead_setUnsigned]

/-- **C01 (never verified unless the leaf key signed)**: with no algorithm for which the signature
    verifies under the leaf key, verification fails — whatever else the envelope contains -/
theorem C01_jws_unsigned_never_verifies (e : Jws.Env) (ci : ChainInfo)
    (hcons : LeafConsistent e.leafKey ci)
    (h : ∀ a, e.sigok.lookup a ≠ some true) : ∀ c, wrapRead false ci (Jws.verify e) ≠ .val c := by
  intro c hv
  obtain ⟨row, _, _, _, ms, _, _, hs⟩ := C02_verify_jws e ci c hcons hv
  exact h _ hs

theorem C01_cose_unsigned_never_verifies (e : Cose.Env) (ci : ChainInfo) (h : e.sigok = false) :
    ∀ c, wrapRead false ci (Cose.verify e) ≠ .val c := by
  intro c hv
  obtain ⟨_, _, _, _, _, hs⟩ := C02_verify_cose e ci c hv
  rw [h] at hs; cases hs

end NotationCore.Props
