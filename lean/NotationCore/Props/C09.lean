import NotationCore.Model.Parse
import NotationCore.Props.C16
import NotationCore.Props.C17
import NotationCore.TieC09
/-!
  C09 — untrusted input never crashes or hangs the caller: the part a model can carry.

  * termination: the one loop in scope whose termination is not structural (`parseCertificates`)
    terminates for every input, given that `pem.Decode` consumes input; every other modelled loop is
    a structural recursion (Lean accepted the definitions as total functions: chains, header
    members, critical labels, CRL entries, distribution points, OCSP servers, freshest-CRL points);
    the fork/join of revocation checking terminates under every schedule (C17).
  * no panic value: the executable models of reading an envelope and of signing have no reachable
    panic outcome.
  * the panic-capable sites of the real code: `TieC09` (regenerated inventory = reviewed inventory).

  What no model exhibits — nil dereferences, index errors and unbounded allocation inside the
  dependencies (encoding/json, fxamacker/cbor, go-cose, golang-jwt, crypto/x509, x/crypto/ocsp) and in
  unmodelled glue — is searched for by the hostile-input runs of the harness; see DESIGN.md.
-/
namespace NotationCore.Props
open Parse

theorem pemLoop_terminates (dec : Decoder) (parse : Bytes → Option Nat) (hc : Consumes dec) :
    ∀ (fuel : Nat) (b : Block) (rest : Bytes) (acc : List Nat), rest.length < fuel →
      ∃ r, pemLoop dec parse fuel b rest acc = some r := by
  intro fuel
  induction fuel with
  | zero => intro b rest acc h; omega
  | succ n ih =>
    intro b rest acc h
    unfold pemLoop
    split
    · exact ⟨_, rfl⟩
    · split
      · exact ⟨_, rfl⟩
      next b' rest' hd => exact ih b' rest' _ (by have := hc rest b' rest' hd; omega)

/-- **C09 (reading a certificate file terminates)**: for every byte string, `parseCertificates`
    returns certificates or an error — the fuel `len(data) + 1` is never exhausted -/
theorem C09_parseCertificates_total (dec : Decoder) (parse : Bytes → Option Nat) (parseDER : Bytes → Option (List Nat))
    (hc : Consumes dec) (data : Bytes) : ∃ r, parseCertificates dec parse parseDER data = some r := by
  unfold parseCertificates
  cases hd : dec data with
  | none => cases parseDER data <;> exact ⟨_, rfl⟩
  | some p =>
    obtain ⟨b, rest⟩ := p
    have := hc data b rest hd
    exact pemLoop_terminates dec parse hc _ b rest [] (by omega)

/-- the number of certificates returned is bounded by the input length: the loop cannot spin -/
theorem pemLoop_length (dec : Decoder) (parse : Bytes → Option Nat) (hc : Consumes dec) :
    ∀ (fuel : Nat) (b : Block) (rest : Bytes) (acc cs : List Nat),
      pemLoop dec parse fuel b rest acc = some (.ok cs) → cs.length ≤ acc.length + rest.length + 1 := by
  intro fuel
  induction fuel with
  | zero => intro b rest acc cs h; cases h
  | succ n ih =>
    intro b rest acc cs h
    unfold pemLoop at h
    split at h
    · cases h
    · split at h
      · cases h; simp
      next b' rest' hd =>
        have h1 := hc rest b' rest' hd
        have h2 := ih b' rest' _ cs h
        simp only [List.length_append, List.length_cons, List.length_nil] at h2
        omega

/-- **C09 (reading a key file)**: total by construction, one block only — no loop at all -/
theorem C09_parsePrivateKeyPEM_cases (dec : Decoder) (pkcs8 ec pkcs1 : Bytes → Bool) (data : Bytes) :
    parsePrivateKeyPEM dec pkcs8 ec pkcs1 data = .noPEM ∨ parsePrivateKeyPEM dec pkcs8 ec pkcs1 data = .unsupportedType ∨
    ∃ ok, parsePrivateKeyPEM dec pkcs8 ec pkcs1 data = .parsed ok := by
  -- holds of every `KeyResult`
  cases parsePrivateKeyPEM dec pkcs8 ec pkcs1 data
  · exact .inl rfl
  · exact .inr (.inl rfl)
  · exact .inr (.inr ⟨_, rfl⟩)

/-- **C09 (signing)**: no request makes the model of `Sign` panic (C16_never_panics) — restated
    here so that the C09 audit covers it -/
theorem C09_sign_never_panics (fmt : Sign.Fmt) (r : Sign.Req) : isPanic (Sign.sign fmt r) = false :=
  sign_not_panic fmt r

/-- **C09 (revocation fork/join)**: under every schedule the call ends (returned or re-panicked on
    the caller) within `4m + 4` actions and the process is never aborted — C17, restated -/
theorem C09_revocation_join (e : Conc.Env α) (n : Nat) (s : Conc.State α) (h : ReachableIn e n s) :
    n ≤ 4 * e.m + 4 ∧ s.crashed = false :=
  ⟨by have := C17_bounded e n s h; omega, C17_no_crash e s h.reachable⟩

/-! ### non-vacuity: a decoder that consumes one byte per block -/
def exDec : Decoder := fun d => match d with | [] => none | x :: rest => some ({ type := "CERTIFICATE", bytes := [x] }, rest)
example : Consumes exDec := by
  intro d b rest h
  cases d with
  | nil => simp [exDec] at h
  | cons x xs => simp [exDec] at h; rw [← h.2]; simp
example : parseCertificates exDec (fun b => b.head?) (fun _ => none) [7, 8, 9] = some (.ok [7, 8, 9]) := by rfl

end NotationCore.Props
