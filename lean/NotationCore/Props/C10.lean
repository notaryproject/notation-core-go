import NotationCore.Proofs.Crl
/-!
  C10 — CRL entries: permanent, hold/remove, invalidity date and delta are honoured.

  All statements are about `Crl.checkRevocation serial st es` where `es` is the merged list
  base entries ++ delta entries (any length).  `matching` = entries for this serial,
  `counting` = matching entries not excused by an invalidity date later than a non-zero
  signing time.
-/
namespace NotationCore.Props
open Crl Proofs.Crl

theorem checkRevocation_eq (serial : Int) (st : Time) (es : List Entry) :
    checkRevocation serial st es =
      match es.find? (stops serial st) with
      | some e => if e.badExt then .err else .revoked
      | none => verdictOfLatest (lat none (counting serial st es)) := scan_eq serial st es none

/-- entries for other serial numbers never matter -/
theorem C10_other_serials (serial : Int) (st : Time) (es : List Entry) :
    checkRevocation serial st es = checkRevocation serial st (matching serial es) := by
  have hc : counting serial st (matching serial es) = counting serial st es := by
    simp [counting, matching, List.filter_filter]
  have hf : (matching serial es).find? (stops serial st) = es.find? (stops serial st) := by
    rw [matching, List.find?_filter]
    congr; funext e
    cases h : e.serial == serial <;> simp [stops, h]
  rw [checkRevocation_eq, checkRevocation_eq, hc, hf]

/-- decision table of `checkRevocation`; the C10 theorems are its rows -/
theorem checkRevocation_cases (serial : Int) (st : Time) (es : List Entry) :
    (checkRevocation serial st es = .err ∧ ∃ e ∈ matching serial es, e.badExt = true) ∨
    (checkRevocation serial st es = .revoked ∧
      ∃ e ∈ counting serial st es, e.badExt = false ∧ isTemp e.reason = false) ∨
    (checkRevocation serial st es = verdictOfLatest (lat none (counting serial st es)) ∧
      (∀ e ∈ matching serial es, e.badExt = false) ∧ ∀ e ∈ counting serial st es, isTemp e.reason = true) := by
  rw [checkRevocation_eq]
  simp only [mem_counting, mem_matching]
  cases hf : es.find? (stops serial st) with
  | some e =>
    have he := List.mem_of_find?_eq_some hf
    have hs : (e.serial == serial) = true ∧ (e.badExt = true ∨ excused st e = false ∧ isTemp e.reason = false) := by
      simpa [stops] using List.find?_some hf
    cases hb : e.badExt
    · exact .inr (.inl ⟨by simp [hb], e, ⟨⟨he, hs.1⟩, (hs.2.resolve_left (by simp [hb])).1⟩, hb,
        (hs.2.resolve_left (by simp [hb])).2⟩)
    · exact .inl ⟨by simp [hb], e, ⟨he, hs.1⟩, hb⟩
  | none =>
    have hn : ∀ e ∈ es, (e.serial == serial) = true → e.badExt = false ∧ (excused st e = false → isTemp e.reason = true) := by
      simpa [stops] using List.find?_eq_none.mp hf
    exact .inr (.inr ⟨rfl, fun e he => (hn e he.1 he.2).1, fun e he => (hn e he.1.1 he.1.2).2 he.2⟩)

/-- serial on neither list ⇒ OK -/
theorem C10_absent (serial : Int) (st : Time) (es : List Entry)
    (h : matching serial es = []) : checkRevocation serial st es = .ok := by
  rw [C10_other_serials, h]; rfl

/-- a counting entry with any reason other than hold / remove ⇒ Revoked
    (no matching entry has an unknown critical extension) -/
theorem C10_permanent (serial : Int) (st : Time) (es : List Entry)
    (hgood : ∀ e ∈ matching serial es, e.badExt = false)
    (hperm : ∃ e ∈ counting serial st es, isTemp e.reason = false) :
    checkRevocation serial st es = .revoked := by
  obtain ⟨e, he, hp⟩ := hperm
  rcases checkRevocation_cases serial st es with ⟨_, x, hx, hb⟩ | ⟨h, _⟩ | ⟨_, _, ht⟩
  · rw [hgood x hx] at hb; cases hb
  · exact h
  · rw [ht e he] at hp; cases hp

theorem checkRevocation_temporary (serial : Int) (st : Time) (es : List Entry)
    (hgood : ∀ e ∈ matching serial es, e.badExt = false)
    (htemp : ∀ e ∈ counting serial st es, isTemp e.reason = true) :
    checkRevocation serial st es = verdictOfLatest (lat none (counting serial st es)) := by
  rcases checkRevocation_cases serial st es with ⟨_, x, hx, hb⟩ | ⟨_, x, hx, _, hp⟩ | ⟨h, _⟩
  · rw [hgood x hx] at hb; cases hb
  · rw [htemp x hx] at hp; cases hp
  · exact h

/-- only hold/remove entries count, and some hold is strictly later than every counting remove
    ⇒ Revoked -/
theorem C10_temporary_hold (serial : Int) (st : Time) (es : List Entry)
    (hgood : ∀ e ∈ matching serial es, e.badExt = false)
    (htemp : ∀ e ∈ counting serial st es, isTemp e.reason = true)
    (hhold : ∃ h ∈ counting serial st es, h.reason = Generated.reasonHold ∧
      ∀ r ∈ counting serial st es, r.reason ≠ Generated.reasonHold → r.revTime < h.revTime) :
    checkRevocation serial st es = .revoked := by
  rw [checkRevocation_temporary serial st es hgood htemp]
  obtain ⟨h, hh, _, hlater⟩ := hhold
  rcases lat_none (counting serial st es) with ⟨h0, _⟩ | ⟨l, hl, hm, hmax⟩
  · rw [h0] at hh; cases hh
  · -- the latest entry is a hold: otherwise it would be strictly earlier than `h`
    have : l.reason = Generated.reasonHold := Decidable.byContradiction fun hlr => by
      have := hlater l hm hlr; have := hmax h hh; omega
    simp [hl, verdictOfLatest, this]

/-- only hold/remove entries count, and every counting hold is strictly earlier than some
    counting non-hold (i.e. remove) entry — in particular when nothing counts — ⇒ OK -/
theorem C10_temporary_remove (serial : Int) (st : Time) (es : List Entry)
    (hgood : ∀ e ∈ matching serial es, e.badExt = false)
    (htemp : ∀ e ∈ counting serial st es, isTemp e.reason = true)
    (hrem : ∀ h ∈ counting serial st es, h.reason = Generated.reasonHold →
      ∃ r ∈ counting serial st es, r.reason ≠ Generated.reasonHold ∧ h.revTime < r.revTime) :
    checkRevocation serial st es = .ok := by
  rw [checkRevocation_temporary serial st es hgood htemp]
  rcases lat_none (counting serial st es) with ⟨_, h0⟩ | ⟨l, hl, hm, hmax⟩
  · rw [h0]; rfl
  · -- the latest entry is not a hold: a hold has a strictly later entry after it
    have : l.reason ≠ Generated.reasonHold := fun hlr => by
      obtain ⟨r, hr, _, hlt⟩ := hrem l hm hlr
      have := hmax r hr; omega
    simp [hl, verdictOfLatest, this]

/-- a matching entry with an unknown critical extension (or malformed invalidity date) rules out
    OK: the answer is an error (reported as Unknown), or Revoked because another entry — good,
    counting, permanent — revokes the certificate -/
theorem C10_critical (serial : Int) (st : Time) (es : List Entry)
    (hbad : ∃ e ∈ matching serial es, e.badExt = true) :
    checkRevocation serial st es = .err ∨
      (checkRevocation serial st es = .revoked ∧
        ∃ e ∈ counting serial st es, e.badExt = false ∧ isTemp e.reason = false) := by
  obtain ⟨e, he, hb⟩ := hbad
  rcases checkRevocation_cases serial st es with ⟨h, _⟩ | h | ⟨_, hg, _⟩
  · exact .inl h
  · exact .inr h
  · rw [hg e he] at hb; cases hb

theorem excused_false_iff (st : Time) (e : Entry) :
    excused st e = false ↔ (st = zeroT ∨ e.invDate = zeroT ∨ e.invDate ≤ st) := by
  simp [excused, isZeroT, Decidable.or_iff_not_imp_left]

/-- what "counts" means, spelled out: with no signing time, or an invalidity date absent or at or
    before the signing time, a matching entry counts; with a later invalidity date it does not -/
theorem C10_counting_iff (serial : Int) (st : Time) (es : List Entry) (e : Entry) :
    e ∈ counting serial st es ↔
      e ∈ es ∧ e.serial = serial ∧ (st = zeroT ∨ e.invDate = zeroT ∨ e.invDate ≤ st) := by
  rw [mem_counting, mem_matching, excused_false_iff, beq_iff_eq, and_assoc]

/-! ### non-vacuity and the repaired defect (F7) -/
private def e (reason : Nat) (rev inv : Int) (bad := false) (serial : Int := 7) : Entry :=
  { serial, reason, revTime := rev, invDate := if inv = 0 then zeroT else inv, badExt := bad }

-- hold then later remove ⇒ OK; remove then later hold ⇒ Revoked
example : checkRevocation 7 100 [e 6 10 0, e 8 20 0] = .ok := by decide
example : checkRevocation 7 100 [e 8 10 0, e 6 20 0] = .revoked := by decide
-- F7 witness: first entry excused by a late invalidity date, second is a plain key compromise.
-- (The unrepaired code returned OK here.)
example : checkRevocation 7 100 [e 1 10 200, e 1 10 0] = .revoked := by decide
-- same with the second entry carrying an unknown critical extension ⇒ error (Unknown)
example : checkRevocation 7 100 [e 1 10 200, e 1 10 0 true] = .err := by decide
-- invalidity date equal to the signing time counts
example : checkRevocation 7 100 [e 1 10 100] = .revoked := by decide
-- no signing time: the date is ignored
example : checkRevocation 7 zeroT [e 1 10 200] = .revoked := by decide
-- other serials never matter
example : checkRevocation 7 100 [e 1 10 0 true 8, e 1 10 0 false 9] = .ok := by decide

end NotationCore.Props
