import NotationCore.Props.C03
import NotationCore.Tie.Code.X509Walk
/-!
  C03 stated about the code: the syntax tree of `ValidateCodeSigningCertChain` and of its fourteen
  callees, regenerated from `/repo/x509` on every run, returns a nil error — under the semantics of
  `GoSem` and the crypto/x509 primitives of `Tie.Code.X509.prims` — exactly on the chains that
  conform (`Spec.Chain.Conforms`), for every chain length, every certificate, every extension list
  agreeing with the certificate record, every signature relation and every optional signing time.
-/
namespace NotationCore.Props
open GoSem Chain Spec Tie.Code.X509

/-- **C03 about the regenerated code** -/
theorem C03_code (sig : Sig) (sigSelf : SigSelf) (n : Nat) (chain : List CertX)
    (hag : ∀ x ∈ chain, ExtsAgree x.1 x.2) (st : Option Time) :
    sem (prims sig sigSelf) funcs (n + 4) "ValidateCodeSigningCertChain" [.list (chain.map cvp), optT st] = some .nil
      ↔ Conforms .codeSigning sig sigSelf (chain.map (·.1)) st := by
  rw [ValidateCodeSigningCertChain_accepts_iff sig sigSelf n chain hag st]
  exact validate_iff _ _ _ _ _

/-- … and it never gets stuck: no nil dereference, no index out of range, no construct outside the
    subset, on any chain — the function always returns exactly one `error` value. -/
theorem C03_code_total (sig : Sig) (sigSelf : SigSelf) (n : Nat) (chain : List CertX)
    (hag : ∀ x ∈ chain, ExtsAgree x.1 x.2) (st : Option Time) :
    ∃ v, sem (prims sig sigSelf) funcs (n + 4) "ValidateCodeSigningCertChain" [.list (chain.map cvp), optT st] = some v :=
  ⟨_, ValidateCodeSigningCertChain_eq sig sigSelf n chain hag st⟩

/-- the hypothesis `ExtsAgree` is satisfiable: a certificate record and an extension list that agree -/
example : ∃ (c : Cert) (e : List (Int × Bool)), ExtsAgree c e ∧ c.kuExt = some true :=
  ⟨{ (default : Cert) with kuExt := some true, ekuExt := none }, [(15, true)], by simp [ExtsAgree, findExt, oidKeyUsage, oidExtKeyUsage], rfl⟩

end NotationCore.Props
