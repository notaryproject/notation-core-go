import NotationCore.Props.C03
/-!
  C14 — timestamping chain validation accepts exactly the conforming TSA chains.
-/
namespace NotationCore.Props
open Chain Spec

/-- **C14**: for every chain, signature relation and feature vector -/
theorem C14 (sig : Sig) (sigSelf : SigSelf) (chain : List Cert) :
    validateTimestamping sig sigSelf chain = .ok () ↔ Conforms .timestamping sig sigSelf chain none :=
  validate_iff _ _ _ _ _

theorem accepted_timestamping (sig : Sig) (sigSelf : SigSelf) (chain : List Cert) :
    accepted (validateTimestamping sig sigSelf chain) = true ↔ Conforms .timestamping sig sigSelf chain none :=
  (accepted_iff _).trans (C14 sig sigSelf chain)

/-- what the timestamping leaf rule says, spelled out: non-CA, key usage present with digital
    signature only, EKU exactly [timeStamping] with no unknown purpose and the extension critical,
    and one of the six approved keys -/
theorem C14_leaf (c : Cert) :
    LeafOK .timestamping c ↔
      (¬ (c.bcValid = true ∧ c.isCA = true) ∧ c.kuExt.isSome = true ∧ DigitalSignatureOnly c.ku ∧
       (c.eku = [8] ∧ c.unknownEku = 0 ∧ c.ekuExt ≠ some false) ∧ c.key ∈ approvedKeys) := by
  unfold LeafOK KeyUsagePresent LeafEKU; exact Iff.rfl

/-- positional corollary for TSA chains (same shape as C03_positions) -/
theorem C14_positions (sig : Sig) (sigSelf : SigSelf) (chain : List Cert)
    (hlen : 2 ≤ chain.length)
    (h : validateTimestamping sig sigSelf chain = .ok ()) :
    ∀ k (hk : k < chain.length),
      (if k = 0 then LeafOK .timestamping chain[k] else CAOK .timestamping chain[k] (k - 1)) ∧
      (∀ (hk' : k + 1 < chain.length), ¬ SelfSigned sigSelf chain[k] ∧ Linked sig chain[k] chain[k+1]) ∧
      (k + 1 = chain.length → Linked sig chain[k] chain[k]) :=
  fun k hk => by
  simpa using (conformsFrom_positions .timestamping sig sigSelf none chain 0 (conformsFrom_of_validate hlen h) k hk).2

/-- the code-signing and timestamping rules differ only at the leaf EKU rule and in key-usage
    criticality: with those two clauses equal, acceptance coincides -/
theorem C14_vs_C03_ca (c : Cert) (n : Nat) (h : c.kuExt = some true) :
    CAOK .timestamping c n ↔ CAOK .codeSigning c n := by
  unfold CAOK KeyUsagePresent; simp [h]

private def tsaLeaf : Cert :=
  { id := 0, subject := 10, issuer := 11, v3 := true, bcValid := false, isCA := false,
    maxPathLen := 0, maxPathLenZero := false, kuExt := some false, ku := 1, ekuExt := some true, eku := [8],
    unknownEku := 0, key := .rsa 2048, notBefore := 0, notAfter := 100 }
private def tsaRoot : Cert :=
  { id := 1, subject := 11, issuer := 11, v3 := true, bcValid := true, isCA := true,
    maxPathLen := -1, maxPathLenZero := false, kuExt := some false, ku := 32, ekuExt := none, eku := [],
    unknownEku := 0, key := .rsa 4096, notBefore := 0, notAfter := 100 }
private def tsaSig : Sig := fun c p => (c, p) == (0, 1) || (c, p) == (1, 1)
example : accepted (validateTimestamping tsaSig (fun c => c == 1) [tsaLeaf, tsaRoot]) = true := by decide
-- EKU extension not critical
example : accepted (validateTimestamping tsaSig (fun c => c == 1) [{ tsaLeaf with ekuExt := some false }, tsaRoot]) = false := by decide
-- a second purpose next to timeStamping
example : accepted (validateTimestamping tsaSig (fun c => c == 1) [{ tsaLeaf with eku := [8, 3] }, tsaRoot]) = false := by decide
-- unknown purpose
example : accepted (validateTimestamping tsaSig (fun c => c == 1) [{ tsaLeaf with unknownEku := 1 }, tsaRoot]) = false := by decide

end NotationCore.Props
