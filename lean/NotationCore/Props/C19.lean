import NotationCore.Model.Trust
/-!
  C19 — trust is established only by an exact certificate match, leaf-most first.
-/
namespace NotationCore.Props
open Trust

/-- the inner loop is `idxOf?` on the DER identities, counted from the start index -/
theorem findTrust_eq (c : TCert) (ts : List TCert) (i : Nat) :
    findTrust c ts i = ((ts.map (·.raw)).idxOf? c.raw).map (i + ·) := by
  induction ts generalizing i with
  | nil => rfl
  | cons t ts ih =>
    rw [findTrust, ih, List.map_cons, List.idxOf?_cons]
    split
    · rfl
    · rw [Option.map_map]; congr 1; funext j; show i + 1 + j = i + (j + 1); omega

/-- the outer loop is `findSome?`; both loops see a certificate through `raw` only -/
theorem scanChain_eq (trusted cs : List TCert) :
    scanChain trusted cs = (cs.map (·.raw)).findSome? fun r => (trusted.map (·.raw)).idxOf? r := by
  induction cs with
  | nil => rfl
  | cons c cs ih =>
    rw [scanChain, findTrust_eq, ih, List.map_cons, List.findSome?_cons]
    simp only [Nat.zero_add, Option.map_id']
    cases List.idxOf? c.raw _ <;> rfl

theorem scanChain_isSome (trusted cs : List TCert) :
    (scanChain trusted cs).isSome = true ↔ ∃ c ∈ cs, c.raw ∈ trusted.map (·.raw) := by
  rw [scanChain_eq, List.findSome?_map, List.findSome?_isSome_iff]
  simp only [Function.comp_apply, List.isSome_idxOf?]

theorem idxOf?_raw_some {trusted : List TCert} {r k : Nat} (h : (trusted.map (·.raw)).idxOf? r = some k) :
    ∃ (hk : k < trusted.length), trusted[k].raw = r ∧ ∀ m (hm : m < k), (trusted[m]'(by omega)).raw ≠ r := by
  rw [List.idxOf?, List.findIdx?_eq_some_iff_getElem] at h
  simpa using h

/-- complete description of the scan: the result is the index of the first trust entry equal to
    the first (leaf-most) chain certificate that has an equal in the trust list -/
theorem scanChain_spec (trusted : List TCert) (cs : List TCert) :
    (∀ k, scanChain trusted cs = some k →
      ∃ (pos : Nat) (hp : pos < cs.length) (hk : k < trusted.length),
        trusted[k].raw = cs[pos].raw ∧
        (∀ m (hm : m < k), (trusted[m]'(by omega)).raw ≠ cs[pos].raw) ∧
        (∀ q (hq : q < pos), (cs[q]'(by omega)).raw ∉ trusted.map (·.raw))) ∧
    (scanChain trusted cs = none → ∀ c ∈ cs, c.raw ∉ trusted.map (·.raw)) := by
  constructor
  · intro k h
    rw [scanChain_eq, List.findSome?_map, List.findSome?_eq_some_iff] at h
    obtain ⟨pre, c, post, rfl, hc, hpre⟩ := h
    obtain ⟨hk, h1, h2⟩ := idxOf?_raw_some hc
    refine ⟨pre.length, by simp, hk, by simpa using h1, by simpa using h2, ?_⟩
    intro q hq
    rw [List.getElem_append_left hq, ← List.idxOf?_eq_none_iff]
    exact hpre _ (List.getElem_mem hq)
  · intro h c hc hm
    have := (scanChain_isSome trusted cs).mpr ⟨c, hc, hm⟩
    rw [h] at this; cases this

theorem verifyAuthenticity_of_ne {trusted : List TCert} (hne : trusted ≠ []) (cs : List TCert) :
    verifyAuthenticity (some cs) trusted =
      match scanChain trusted cs with
      | some i => .ok i
      | none => .error .authenticity := by
  cases trusted with
  | nil => exact absurd rfl hne
  | cons _ _ => rfl

/-- **C19 (iff)**: with a non-empty trust list and signer info present, a certificate is returned
    iff some chain certificate is byte-for-byte identical to a trust-list certificate -/
theorem C19_iff (cs trusted : List TCert) (hne : trusted ≠ []) :
    (∃ k, verifyAuthenticity (some cs) trusted = .ok k) ↔ ∃ c ∈ cs, c.raw ∈ trusted.map (·.raw) := by
  rw [verifyAuthenticity_of_ne hne, ← scanChain_isSome]
  cases scanChain trusted cs <;> simp

/-- **C19 (which)**: the certificate returned is the first trust-list entry equal to the first
    chain certificate (leaf to root) that has an equal in the trust list -/
theorem C19_which (cs trusted : List TCert) (k : Nat) (h : verifyAuthenticity (some cs) trusted = .ok k) :
    ∃ (pos : Nat) (hp : pos < cs.length) (hk : k < trusted.length),
      trusted[k].raw = cs[pos].raw ∧
      (∀ m (hm : m < k), (trusted[m]'(by omega)).raw ≠ cs[pos].raw) ∧
      (∀ q (hq : q < pos), (cs[q]'(by omega)).raw ∉ trusted.map (·.raw)) := by
  have hne : trusted ≠ [] := by rintro rfl; cases h
  rw [verifyAuthenticity_of_ne hne] at h
  refine (scanChain_spec trusted cs).1 k ?_
  split at h <;> cases h
  assumption

/-- look-alike metadata is irrelevant: the verdict depends on certificates only through `raw` -/
theorem C19_lookalike_irrelevant (cs cs' trusted trusted' : List TCert)
    (h1 : cs.map (·.raw) = cs'.map (·.raw)) (h2 : trusted.map (·.raw) = trusted'.map (·.raw)) :
    verifyAuthenticity (some cs) trusted = verifyAuthenticity (some cs') trusted' := by
  have he : trusted.isEmpty = trusted'.isEmpty := by
    rw [← List.isEmpty_map (f := (·.raw)), h2, List.isEmpty_map]
  have hs : scanChain trusted cs = scanChain trusted' cs' := by rw [scanChain_eq, scanChain_eq, h1, h2]
  simp only [verifyAuthenticity, he, hs]

/-- argument errors come first and are distinct from a trust failure -/
theorem C19_args (chain : Option (List TCert)) (trusted : List TCert) :
    (trusted = [] → verifyAuthenticity chain trusted = .error .invalidArgTrusted) ∧
    (trusted ≠ [] → chain = none → verifyAuthenticity chain trusted = .error .invalidArgSignerInfo) ∧
    (trusted ≠ [] → ∀ cs, chain = some cs → (∀ c ∈ cs, c.raw ∉ trusted.map (·.raw)) →
        verifyAuthenticity chain trusted = .error .authenticity) := by
  refine ⟨?_, ?_, ?_⟩
  · rintro rfl; rfl
  · rintro h rfl
    cases trusted with
    | nil => exact absurd rfl h
    | cons _ _ => rfl
  · rintro h cs rfl hall
    have hs : scanChain trusted cs = none := Option.not_isSome_iff_eq_none.mp fun hs =>
      have ⟨c, hc, hm⟩ := (scanChain_isSome trusted cs).mp hs
      hall c hc hm
    rw [verifyAuthenticity_of_ne h, hs]

/-- the authentic signing time is available exactly under the signing-authority scheme with a
    non-zero signing time, and then it is that time -/
theorem C19_authentic_time (isAuthority : Bool) (st t : Time) :
    authenticSigningTime isAuthority st = some t ↔ (isAuthority = true ∧ st ≠ zeroT ∧ t = st) := by
  unfold authenticSigningTime isZeroT
  cases isAuthority with
  | false => simp
  | true =>
    by_cases h : st = zeroT
    · simp [h]
    · simp [h]; exact eq_comm

private def a : TCert := ⟨1, 10, 20, 1, 99⟩
private def aReissued : TCert := ⟨2, 10, 20, 2, 99⟩   -- same subject and key, other serial: not equal
private def b : TCert := ⟨3, 11, 21, 1, 99⟩
example : verifyAuthenticity (some [b, a]) [aReissued, a, b] = .ok 2 := by rfl      -- leaf-most (b) wins
example : verifyAuthenticity (some [a]) [aReissued] = .error .authenticity := by rfl
example : verifyAuthenticity (some [a]) [] = .error .invalidArgTrusted := by rfl
example : verifyAuthenticity none [a] = .error .invalidArgSignerInfo := by rfl

end NotationCore.Props
