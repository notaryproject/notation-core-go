import NotationCore.Proofs.Conc
import NotationCore.Model.Revocation
/-!
  C17 — revocation checking is schedule-independent and leaves nothing behind.

  All statements are about *every* state reachable under *every* interleaving of the atomic
  actions of the main goroutine and the per-certificate goroutines (any chain length, any
  combination of returning and panicking checks).
-/
namespace NotationCore.Props
open Conc

variable {α : Type}

/-- the slots of a call that has returned are a function of the checks alone -/
theorem slots_returned {e : Env α} {s : State α} (h : Reachable e s) (hr : s.main = .returned) {i : Nat} (hi : i ≤ e.m) :
    s.slots i = if i < e.m then slotOf e i else some e.root := by
  have inv := inv_reachable e s h
  split
  next hlt => exact inv.slotPast i hlt (by rw [inv.allDone (by rw [hr]; rfl) i hlt]; rfl)
  next hge => rw [show i = e.m by omega, inv.slotLast, hr]; rfl

/-- **C17 (the result does not depend on the schedule)**: whenever the call returns, every
    goroutine has finished, no check panicked, and slot `i` holds exactly what check `i` evaluates
    to — a function of the certificates and the servers' answers, not of the order in which the
    exchanges started or completed; the last slot is the root's fixed entry -/
theorem C17_results (e : Env α) (s : State α) (h : Reachable e s) (hr : s.main = .returned) :
    (∀ i, i < e.m → ∃ r, e.f i = .val r ∧ s.slots i = some r) ∧ s.slots e.m = some e.root ∧
    (∀ i, i < e.m → s.tasks i = .finished) := by
  have inv := inv_reachable e s h
  refine ⟨fun i hi => ?_, by rw [slots_returned h hr (Nat.le_refl _), if_neg (Nat.lt_irrefl _)], inv.allDone (by rw [hr]; rfl)⟩
  have hs := slots_returned h hr (Nat.le_of_lt hi)
  rw [if_pos hi, slotOf] at hs
  have hnp := inv.retOk hr i hi
  cases hf : e.f i with
  | panic p => rw [hf] at hnp; cases hnp
  | val r => rw [hf] at hs; exact ⟨r, rfl, hs⟩

/-- two schedules that both return, return the same results -/
theorem C17_schedule_independent (e : Env α) (s₁ s₂ : State α) (h₁ : Reachable e s₁) (h₂ : Reachable e s₂)
    (r₁ : s₁.main = .returned) (r₂ : s₂.main = .returned) : ∀ i, i ≤ e.m → s₁.slots i = s₂.slots i :=
  fun _ hi => (slots_returned h₁ r₁ hi).trans (slots_returned h₂ r₂ hi).symm

/-- **C17 (nothing left behind)**: once the main goroutine is past `wg.Wait()` — in particular
    whenever the call has returned or re-panicked — every goroutine it started has finished -/
theorem C17_join (e : Env α) (s : State α) (h : Reachable e s) (ha : afterWait s.main = true) :
    ∀ i, i < e.m → s.tasks i = .finished :=
  (inv_reachable e s h).allDone ha

/-- **C17 (a panic resurfaces on the caller)**: the value re-panicked on the calling goroutine is
    the panic of one of the checks, and by then every goroutine has finished -/
theorem C17_panic_resurfaces (e : Env α) (s : State α) (p : Nat) (h : Reachable e s) (hp : s.main = .repanicked p) :
    (∃ i, i < e.m ∧ e.f i = .panic p) ∧ ∀ i, i < e.m → s.tasks i = .finished :=
  ⟨(inv_reachable e s h).repanOk p hp, (inv_reachable e s h).allDone (by rw [hp]; rfl)⟩

/-- … and is never lost: if some check panics, the call does not return normally -/
theorem C17_panic_never_lost (e : Env α) (s : State α) (h : Reachable e s) (i : Nat) (hi : i < e.m) (p : Nat)
    (hf : e.f i = .panic p) : s.main ≠ .returned := by
  intro hr
  have := (inv_reachable e s h).retOk hr i hi
  rw [hf] at this; cases this

/-- **C17 (the process is never aborted)**: no send on a closed channel, no negative WaitGroup
    counter, under any schedule -/
theorem C17_no_crash (e : Env α) (s : State α) (h : Reachable e s) : s.crashed = false :=
  (inv_reachable e s h).notCrashed

/-- the panic channel is closed only when the call is over, and then nobody can send any more -/
theorem C17_close_after_all (e : Env α) (s : State α) (h : Reachable e s) (hc : s.closed = true) :
    ∀ i, i < e.m → s.tasks i = .finished := by
  have inv := inv_reachable e s h
  apply inv.allDone
  cases haw : afterWait s.main with
  | true => rfl
  | false => rw [inv.closedIff, not_terminal_of_beforeWait haw] at hc; cases hc

/-- a live goroutine can always move: its send never blocks (the capacity covers every goroutine)
    and finds the channel open, its `Done` finds the counter positive -/
theorem task_enabled {e : Env α} {s : State α} (inv : Inv e s) {i : Nat} (hi : i < e.m) (ha : active (s.tasks i) = true) :
    ∃ s', step e s (.task i) = some s' := by
  have hnt := not_terminal_of_beforeWait (inv.beforeWait hi ha)
  simp only [step, hi, if_true]
  cases ht : s.tasks i with
  | unborn => rw [ht] at ha; cases ha
  | finished => rw [ht] at ha; cases ha
  | ready => cases e.f i <;> simp
  | haveVal r => simp
  | epilogue => simp [Nat.ne_of_gt (inv.wg_pos_iff.mpr ⟨i, hi, ha⟩)]
  | panicking p =>
    have hcl : s.closed = false := inv.closedIff.trans hnt
    have hlen : s.chan.length < e.m + 1 := by
      rw [inv.chanLen hnt]
      exact Nat.lt_succ_of_le (sum_le (sent e s) e.m (fun j _ => by unfold sent; split <;> omega))
    simp [hcl, hlen]

/-- **C17 (no deadlock)**: in every reachable state in which the call is not over, some thread can
    take a step; in particular a send on the panic channel never blocks (its capacity covers every
    goroutine) -/
theorem C17_progress (e : Env α) (s : State α) (h : Reachable e s) (hn : terminal s = false) :
    ∃ t s', step e s t = some s' := by
  have inv := inv_reachable e s h
  cases hm : s.main with
  | spawning k => exact ⟨.main, by simp only [step, hm]; split <;> exact ⟨_, rfl⟩⟩
  | storeLast => exact ⟨.main, by simp only [step, hm]; exact ⟨_, rfl⟩⟩
  | selecting => exact ⟨.main, by simp only [step, hm]; split <;> exact ⟨_, rfl⟩⟩
  | returned => simp [terminal, hm] at hn
  | repanicked p => simp [terminal, hm] at hn
  | waiting =>
    by_cases hw : s.wg = 0
    · exact ⟨.main, by simp only [step, hm, hw, if_true]; exact ⟨_, rfl⟩⟩
    · -- the counter counts the live goroutines: one of them exists, and can move
      obtain ⟨i, hi, ha⟩ := inv.wg_pos_iff.mp (Nat.pos_of_ne_zero hw)
      exact ⟨.task i, task_enabled inv hi ha⟩

/-- actions the main goroutine still has to take from this control state -/
def mmu (e : Env α) : MPc → Nat
  | .spawning k => (e.m - k) + 4
  | .storeLast => 3
  | .waiting => 2
  | .selecting => 1
  | .returned => 0
  | .repanicked _ => 0

/-- actions a per-certificate goroutine still has to take -/
def tmu : TPc α → Nat
  | .unborn => 3
  | .ready => 3
  | .haveVal _ => 2
  | .panicking _ => 2
  | .epilogue => 1
  | .finished => 0

def measure (e : Env α) (s : State α) : Nat := mmu e s.main + sum (fun i => tmu (s.tasks i)) e.m

theorem measure_task {e : Env α} {s s' : State α} {i : Nat} {pc' : TPc α} (hi : i < e.m)
    (ht : s'.tasks = fun j => if j = i then pc' else s.tasks j)
    (hdec : mmu e s'.main + tmu pc' + 1 = mmu e s.main + tmu (s.tasks i)) : measure e s' + 1 = measure e s := by
  have := sum_update_task (fun _ pc => tmu pc) s.tasks pc' hi
  unfold measure
  rw [ht]
  show _ + sum (fun j => tmu (if j = i then pc' else s.tasks j)) e.m + 1 = _
  omega

theorem measure_main {e : Env α} {s s' : State α} (ht : s'.tasks = s.tasks) (hdec : mmu e s'.main + 1 = mmu e s.main) :
    measure e s' + 1 = measure e s := by
  unfold measure
  rw [ht]
  omega

/-- the measure counts the actions that are left: each one takes exactly one off -/
theorem measure_move {e : Env α} {s s' : State α} {t : Tid} (h : Move e s t s') : measure e s' + 1 = measure e s := by
  cases h with
  | spawn k hm hk hunb => exact measure_task hk rfl (by rw [hm, hunb]; simp only [mmu, tmu]; omega)
  | spawnEnd hm => exact measure_main rfl (by rw [hm]; simp only [mmu]; omega)
  | storeLast hm => exact measure_main rfl (by rw [hm]; rfl)
  | wait hm _ => exact measure_main rfl (by rw [hm]; rfl)
  | ret hm _ => exact measure_main rfl (by rw [hm]; rfl)
  | repanic p rest hm _ => exact measure_main rfl (by rw [hm]; rfl)
  | val i r hi ht _ => exact measure_task hi rfl (by rw [ht]; rfl)
  | panic i p hi ht _ => exact measure_task hi rfl (by rw [ht]; rfl)
  | store i r hi ht => exact measure_task hi rfl (by rw [ht]; rfl)
  | send i p hi ht => exact measure_task hi rfl (by rw [ht]; rfl)
  | done i hi ht _ => exact measure_task hi rfl (by rw [ht]; rfl)

/-- **C17 (every schedule terminates)**: every atomic action from a reachable state strictly
    decreases a measure that starts at `4·m + 4` -/
theorem C17_measure_decreases (e : Env α) (s s' : State α) (t : Tid) (h : Reachable e s) (hs : step e s t = some s') :
    measure e s' < measure e s := by
  have := measure_move ((inv_reachable e s h).move hs)
  omega

/-- states reachable in exactly `n` actions -/
inductive ReachableIn (e : Env α) : Nat → State α → Prop where
  | init : ReachableIn e 0 init
  | step (n : Nat) (s s' : State α) (t : Tid) : ReachableIn e n s → step e s t = some s' → ReachableIn e (n + 1) s'

theorem ReachableIn.reachable {e : Env α} {n : Nat} {s : State α} (h : ReachableIn e n s) : Reachable e s := by
  induction h with
  | init => exact .init
  | step n s s' t _ hs ih => exact .step s s' t ih hs

theorem steps_exact (e : Env α) (n : Nat) (s : State α) (h : ReachableIn e n s) : n + measure e s = 4 * e.m + 4 := by
  induction h with
  | init =>
    show 0 + (mmu e (.spawning 0) + sum (fun _ => tmu .unborn) e.m) = _
    rw [sum_const]
    simp only [mmu, tmu]; omega
  | step n s s' t hr hs ih =>
    have := measure_move ((inv_reachable e s hr.reachable).move hs)
    omega

/-- no schedule is longer than `4·m + 4` actions -/
theorem C17_bounded (e : Env α) (n : Nat) (s : State α) (h : ReachableIn e n s) : n + measure e s ≤ 4 * e.m + 4 :=
  Nat.le_of_eq (steps_exact e n s h)

theorem runSched_reachable (e : Env α) (ts : List Tid) (s : State α) (h : Reachable e s) : Reachable e (runSched e s ts) := by
  induction ts generalizing s with
  | nil => exact h
  | cons t ts ih =>
    unfold runSched
    cases hs : step e s t with
    | none => exact ih s h
    | some s' => exact ih s' (.step s s' t h hs)

/-- **C17 (complete schedules)**: a schedule after which no thread can move has ended the call —
    returned or re-panicked — with every goroutine finished -/
theorem C17_complete (e : Env α) (ts : List Tid) (hstuck : ∀ t, step e (runSched e init ts) t = none) :
    terminal (runSched e init ts) = true ∧ ∀ i, i < e.m → (runSched e init ts).tasks i = .finished := by
  have hr := runSched_reachable e ts init .init
  have ht : terminal (runSched e init ts) = true := by
    cases hx : terminal (runSched e init ts) with
    | true => rfl
    | false =>
      obtain ⟨t, s', hs⟩ := C17_progress e _ hr hx
      rw [hstuck t] at hs; cases hs
  refine ⟨ht, ?_⟩
  apply C17_join e _ hr
  unfold terminal at ht
  cases hm : (runSched e init ts).main <;> rw [hm] at ht <;> simp [afterWait] at *

/-- the fork/join instantiated with the per-certificate check of `Model.Revocation`: goroutine `i`
    computes `check` of the `i`-th non-root certificate in its environment -/
def revEnv (check : Revocation.Env → Revocation.Cert → Time → CertResult) (cs : List (Revocation.Env × Revocation.Cert)) (st : Time) :
    Conc.Env CertResult :=
  { m := cs.length,
    f := fun i => match cs[i]? with
      | some p => .val (check p.1 p.2 st)
      | none => .val Revocation.nonRevokable,
    root := Revocation.nonRevokable }

/-- **C17 (the concurrent call computes the sequential results)**: under every schedule, when
    `ValidateContext` (resp. `ocsp.CheckStatus`) returns, the result slice is exactly
    `Revocation.results check cs st` — the list the theorems of C04–C06 and C10–C12 are about -/
theorem C17_refines_sequential (check : Revocation.Env → Revocation.Cert → Time → CertResult)
    (cs : List (Revocation.Env × Revocation.Cert)) (st : Time) (s : State CertResult)
    (h : Reachable (revEnv check cs st) s) (hr : s.main = .returned) :
    (List.range (cs.length + 1)).map s.slots = (Revocation.results check cs st).map some := by
  apply List.ext_getElem
  · simp [Revocation.results]
  · intro i hi1 hi2
    simp only [List.length_map, List.length_range] at hi1
    rw [List.getElem_map, List.getElem_range, slots_returned h hr (Nat.le_of_lt_succ hi1)]
    simp only [Revocation.results, List.getElem_map]
    by_cases him : i < cs.length
    · rw [if_pos (show i < (revEnv check cs st).m from him), List.getElem_append_left (by simpa using him)]
      simp [slotOf, revEnv, him]
    · cases (show i = cs.length by omega)
      simp [revEnv]

/-! ### non-vacuity: a concrete chain of four certificates, the second check panics -/

def exEnv : Env Nat := { m := 3, f := fun i => if i = 1 then .panic 7 else .val (10 + i), root := 0 }

def exSched : List Tid :=
  [.main, .main, .task 1, .main, .task 0, .main, .task 1, .task 2, .main, .task 0, .task 2, .task 1, .task 0, .task 2, .main, .main]

example : (runSched exEnv init exSched).main = .repanicked 7 := by decide
example : (runSched { exEnv with f := fun i => .val (10 + i) } init exSched).main = .returned := by decide
example : (runSched { exEnv with f := fun i => .val (10 + i) } init exSched).slots 2 = some 12 := by decide

end NotationCore.Props
