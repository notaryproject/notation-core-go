import NotationCore.Proofs.Chain
/-!
  C03 — code-signing chain validation accepts exactly the conforming ordered chains.
  (C14 reuses `validate_iff` with the timestamping purpose.)
-/
namespace NotationCore.Props
open Chain Spec Proofs.Chain

theorem checkSignatureFrom_sig {sig : Sig} {c p : Cert} (h : checkSignatureFrom sig c p = true) :
    sig c.id p.id = true := by
  unfold checkSignatureFrom at h
  simp only [Bool.and_eq_true] at h
  exact h.2

theorem isIssuedBy_true_of {sig : Sig} {c p : Cert} (h : isIssuedBy sig c p = .ok true) :
    Linked sig c p := by
  unfold isIssuedBy at h
  by_cases hs : checkSignatureFrom sig c p = true
  · simp only [hs, if_true, Except.ok.injEq, beq_iff_eq] at h
    exact ⟨checkSignatureFrom_sig hs, h.symm⟩
  · simp [hs] at h

theorem isIssuedBy_of_linked {pp : Purpose} {sig : Sig} {c p : Cert} {n : Nat}
    (hca : CAOK pp p n) (hl : Linked sig c p) : isIssuedBy sig c p = .ok true := by
  unfold isIssuedBy
  rw [checkSignatureFrom_of_CAOK hca, hl.1]
  simp [hl.2]

theorem link_ok_root (sig : Sig) (sigSelf : SigSelf) (i : Nat) (c : Cert) :
    linkCheck sig sigSelf i c [] = .ok () ↔ isIssuedBy sig c c = .ok true := by
  unfold linkCheck
  cases h : isIssuedBy sig c c with
  | error e => simp
  | ok b => cases b <;> simp

theorem link_ok_mid (sig : Sig) (sigSelf : SigSelf) (i : Nat) (c parent : Cert) (rest : List Cert) :
    linkCheck sig sigSelf i c (parent :: rest) = .ok () ↔
      (¬ SelfSigned sigSelf c ∧ isIssuedBy sig c parent = .ok true) := by
  unfold linkCheck
  rw [← selfSignedDirect_iff]
  by_cases hs : selfSignedDirect sigSelf c = true
  · simp only [hs, if_true, not_true_eq_false, false_and, iff_false]
    by_cases hi : (i == 0) = true <;> simp [hi]
  · simp only [hs, Bool.false_eq_true, if_false, not_false_eq_true, true_and]
    cases h : isIssuedBy sig c parent with
    | error e => simp
    | ok b => cases b <;> simp

/-- the loop accepts exactly `ConformsFrom`, at every position and for every suffix
    (position 0 only with at least two certificates: the length-1 chain has its own branch) -/
theorem loopFrom_iff (p : Purpose) (sig : Sig) (sigSelf : SigSelf) (st : Option Time) :
    ∀ (chain : List Cert) (i : Nat), (i = 0 → 2 ≤ chain.length) →
      (loopFrom p sig sigSelf st i chain = .ok () ↔ ConformsFrom p sig sigSelf st i chain) := by
  intro chain
  induction chain with
  | nil => intro i _; simp [loopFrom, ConformsFrom]
  | cons c rest ih =>
    intro i hlen
    have hpos : posCheck p i c = .ok () ↔
        (if i = 0 then LeafOK p c else CAOK p c (i - 1)) := by
      unfold posCheck
      by_cases hi : i = 0
      · simp [hi, leafChecks_ok]
      · simp [hi, caChecks_ok]
    have ih' := ih (i + 1) (by omega)
    cases rest with
    | nil =>
      have hi : i ≠ 0 := by
        intro h; have := hlen h; simp at this
      unfold loopFrom ConformsFrom
      rw [bind_ok, bind_ok, bind_ok, validateSigningTime_ok, ih', hpos, link_ok_root]
      simp only [hi, if_false]
      constructor
      · rintro ⟨hv, hroot, hca, ht⟩
        exact ⟨hv, isIssuedBy_true_of hroot, hca, ht⟩
      · rintro ⟨hv, hl, hca, ht⟩
        exact ⟨hv, isIssuedBy_of_linked hca hl, hca, ht⟩
    | cons parent rest' =>
      unfold loopFrom ConformsFrom
      rw [bind_ok, bind_ok, bind_ok, validateSigningTime_ok, ih', hpos, link_ok_mid]
      constructor
      · rintro ⟨hv, ⟨hns, hiss⟩, hpc, ht⟩
        exact ⟨hv, ⟨hns, isIssuedBy_true_of hiss⟩, hpc, ht⟩
      · rintro ⟨hv, ⟨hns, hl⟩, hpc, ht⟩
        refine ⟨hv, ⟨hns, ?_⟩, hpc, ht⟩
        -- the parent passed the CA checks (it sits at position i+1 ≠ 0), so it is an
        -- admissible `CheckSignatureFrom` parent
        have hca : CAOK p parent i := by
          have := ht.2.2.1
          simpa using this
        exact isIssuedBy_of_linked hca hl

/-- **C03/C14 main theorem**: validation for a purpose accepts exactly the conforming chains,
    for every chain length, every certificate feature vector, every signature relation and
    every (optional) signing time. -/
theorem validate_iff (p : Purpose) (sig : Sig) (sigSelf : SigSelf) (chain : List Cert) (st : Option Time) :
    validate p sig sigSelf chain st = .ok () ↔ Conforms p sig sigSelf chain st := by
  match chain with
  | [] => simp [validate, Conforms]
  | [c] =>
    unfold validate Conforms SelfSigned
    rw [ite_error_ok, ite_error_ok, bind_ok, validateSigningTime_ok, leafChecks_ok]
    simp [and_assoc]
  | c :: d :: rest =>
    exact loopFrom_iff p sig sigSelf st (c :: d :: rest) 0 (by simp)

/-- **C03** -/
theorem C03 (sig : Sig) (sigSelf : SigSelf) (chain : List Cert) (st : Option Time) :
    validateCodeSigning sig sigSelf chain st = .ok () ↔ Conforms .codeSigning sig sigSelf chain st :=
  validate_iff _ _ _ _ _

theorem accepted_iff (r : R) : accepted r = true ↔ r = .ok () := by
  cases r <;> simp [accepted]

theorem accepted_codeSigning (sig : Sig) (sigSelf : SigSelf) (chain : List Cert) (st : Option Time) :
    accepted (validateCodeSigning sig sigSelf chain st) = true ↔ Conforms .codeSigning sig sigSelf chain st :=
  (accepted_iff _).trans (C03 sig sigSelf chain st)

/-! ### index-level reading of `Conforms` (what the property text says, position by position) -/

theorem conformsFrom_positions (p : Purpose) (sig : Sig) (sigSelf : SigSelf) (st : Option Time) :
    ∀ (chain : List Cert) (i : Nat), ConformsFrom p sig sigSelf st i chain →
      ∀ k (hk : k < chain.length),
        InValidity chain[k] st ∧
        (if i + k = 0 then LeafOK p chain[k] else CAOK p chain[k] (i + k - 1)) ∧
        (∀ (hk' : k + 1 < chain.length), ¬ SelfSigned sigSelf chain[k] ∧ Linked sig chain[k] chain[k+1]) ∧
        (k + 1 = chain.length → Linked sig chain[k] chain[k]) := by
  intro chain
  induction chain with
  | nil => intro i _ k hk; simp at hk
  | cons c rest ih =>
    intro i h k hk
    obtain ⟨hv, hlink, hpos, htail⟩ := h
    cases k with
    | zero =>
      refine ⟨hv, hpos, ?_, ?_⟩
      · intro hk'
        cases rest with
        | nil => simp at hk'
        | cons parent r => simpa using hlink
      · intro hlen
        cases rest with
        | nil => simpa using hlink
        | cons parent r => simp at hlen
    | succ k =>
      have hk2 : k < rest.length := by simpa using hk
      have := ih (i + 1) htail k hk2
      simp only [List.getElem_cons_succ, List.length_cons]
      have e : i + (k + 1) = i + 1 + k := by omega
      rw [e]
      refine ⟨this.1, this.2.1, ?_, ?_⟩
      · intro hk'; exact this.2.2.1 (by omega)
      · intro hlen; exact this.2.2.2 (by omega)

theorem conformsFrom_of_validate {p : Purpose} {sig : Sig} {sigSelf : SigSelf} {chain : List Cert} {st : Option Time}
    (hlen : 2 ≤ chain.length) (h : validate p sig sigSelf chain st = .ok ()) : ConformsFrom p sig sigSelf st 0 chain := by
  match chain, hlen with
  | c :: d :: rest, _ => exact (validate_iff p sig sigSelf _ st).mp h

/-- **C03 (positional corollary)**: an accepted chain of length ≥ 2 is ordered leaf to root, every
    certificate signed by and naming the next, no non-root certificate self-signed, the last one
    self-signed, leaf and CA requirements at the right depths, signing time within every validity. -/
theorem C03_positions (sig : Sig) (sigSelf : SigSelf) (chain : List Cert) (st : Option Time)
    (hlen : 2 ≤ chain.length)
    (h : validateCodeSigning sig sigSelf chain st = .ok ()) :
    ∀ k (hk : k < chain.length),
      InValidity chain[k] st ∧
      (if k = 0 then LeafOK .codeSigning chain[k] else CAOK .codeSigning chain[k] (k - 1)) ∧
      (∀ (hk' : k + 1 < chain.length), ¬ SelfSigned sigSelf chain[k] ∧ Linked sig chain[k] chain[k+1]) ∧
      (k + 1 = chain.length → Linked sig chain[k] chain[k]) := fun k hk => by
  simpa using conformsFrom_positions .codeSigning sig sigSelf st chain 0 (conformsFrom_of_validate hlen h) k hk

/-- a chain that conforms at a signing time conforms when no time is checked -/
theorem conformsFrom_none (p : Purpose) (sig : Sig) (sigSelf : SigSelf) (st : Option Time) :
    ∀ (i : Nat) (l : List Cert), ConformsFrom p sig sigSelf st i l → ConformsFrom p sig sigSelf none i l := by
  intro i l
  induction l generalizing i with
  | nil => intro _; trivial
  | cons c rest ih =>
    intro h
    obtain ⟨_, h2, h3, h4⟩ := h
    exact ⟨(fun t' ht => by cases ht), h2, h3, ih _ h4⟩

theorem conforms_none (p : Purpose) (sig : Sig) (sigSelf : SigSelf) (l : List Cert) (st : Option Time)
    (h : Conforms p sig sigSelf l st) : Conforms p sig sigSelf l none := by
  match l, h with
  | [c], h => exact ⟨h.1, (fun t' ht => by cases ht), h.2.2⟩
  | _ :: _ :: _, h => exact conformsFrom_none p sig sigSelf st 0 _ h

/-! ### non-vacuity: a concrete conforming 3-chain and a concrete length-1 chain -/

private def leaf : Cert :=
  { id := 0, subject := 10, issuer := 11, v3 := true, bcValid := false, isCA := false,
    maxPathLen := 0, maxPathLenZero := false, kuExt := some true, ku := 1, ekuExt := some false, eku := [3],
    unknownEku := 0, key := .ec 256, notBefore := 0, notAfter := 100 }
private def inter : Cert :=
  { id := 1, subject := 11, issuer := 12, v3 := true, bcValid := true, isCA := true,
    maxPathLen := 0, maxPathLenZero := true, kuExt := some true, ku := 32, ekuExt := none, eku := [],
    unknownEku := 0, key := .rsa 3072, notBefore := 0, notAfter := 100 }
private def root : Cert :=
  { id := 2, subject := 12, issuer := 12, v3 := true, bcValid := true, isCA := true,
    maxPathLen := -1, maxPathLenZero := false, kuExt := some true, ku := 96, ekuExt := none, eku := [],
    unknownEku := 0, key := .ec 384, notBefore := 0, notAfter := 100 }
private def sig3 : Sig := fun c p => (c, p) == (0, 1) || (c, p) == (1, 2) || (c, p) == (2, 2)
private def selfs3 : SigSelf := fun c => c == 2

example : accepted (validateCodeSigning sig3 selfs3 [leaf, inter, root] (some 50)) = true := by decide
example : accepted (validateCodeSigning sig3 selfs3 [leaf, inter, root] (some 101)) = false := by decide
example : accepted (validateCodeSigning sig3 selfs3 [leaf, inter, root] (some 100)) = true := by decide
example : accepted (validateCodeSigning sig3 selfs3 [leaf, inter, root] (some 0)) = true := by decide
-- path length zero at depth 1 is too small
example : accepted (validateCodeSigning (fun c p => sig3 c p || (c, p) == (1, 1)) selfs3 [leaf, inter, inter, root] none) = false := by decide
private def solo : Cert := { leaf with issuer := 10 }
example : accepted (validateCodeSigning (fun _ _ => false) (fun c => c == 0) [solo] none) = true := by decide

/-- **F2 witness** (the defect repaired by the `fix:` commit for C03/C14): a self-signed leaf that
    shares key and subject with its parent.  With the repaired rule (direct self-signature test
    at non-root positions) the model rejects it. -/
private def twinLeaf : Cert := { leaf with subject := 12, issuer := 12 }
example : accepted (validateCodeSigning (fun c p => (c, p) == (0, 2) || (c, p) == (2, 2)) (fun _ => true)
    [twinLeaf, root] none) = false := by decide

end NotationCore.Props
