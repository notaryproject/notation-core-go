import NotationCore.Props.C06
/-!
  C12 — revocation results are complete, positional and internally consistent.
-/
namespace NotationCore.Props
open Revocation

/-- empty chain or a chain that fails validation for the configured purpose ⇒ invalid-chain error
    and no results -/
theorem C12_invalid (n : Nat) (chainOK : Bool) (cs : List (Env × Cert)) (st : Time)
    (h : n = 0 ∨ chainOK = false) : validate n chainOK cs st = .error .invalidChain := by
  rcases h with rfl | rfl <;> simp [validate]

theorem C12_invalid_standalone (n : Nat) (chainOK : Bool) (cs : List (Env × Cert)) (st : Time)
    (h : n = 0 ∨ chainOK = false) : checkStatus n chainOK cs st = .error .invalidChain := by
  rcases h with rfl | rfl <;> simp [checkStatus]

theorem results_spec (check : Env → Cert → Time → CertResult) (cs : List (Env × Cert)) (st : Time) :
    (results check cs st).length = cs.length + 1 ∧
    (results check cs st)[cs.length]? = some nonRevokable ∧
    ∀ k (hk : k < cs.length), (results check cs st)[k]? = some (check cs[k].1 cs[k].2 st) := by
  unfold results
  refine ⟨by simp, ?_, fun k hk => ?_⟩
  · rw [List.getElem?_append_right (by simp)]; simp
  · rw [List.getElem?_append_left (by simpa using hk)]; simp [hk]

theorem validate_ok {n : Nat} {cs : List (Env × Cert)} {st : Time} {rs : List CertResult}
    (h : validate n true cs st = .ok rs) : rs = results certCheck cs st := by
  unfold validate at h; split at h <;> simp_all

theorem checkStatus_ok {n : Nat} {cs : List (Env × Cert)} {st : Time} {rs : List CertResult}
    (h : checkStatus n true cs st = .ok rs) : rs = results certCheckOcspOnly cs st := by
  unfold checkStatus at h; split at h <;> simp_all

theorem zip_results (check : Env → Cert → Time → CertResult) (cs : List (Env × Cert)) (st : Time) :
    (cs.map (·.2)).zip (results check cs st) = cs.map fun p => (p.2, check p.1 p.2 st) := by
  have := List.zip_append (l₁ := cs.map (·.2)) (r₁ := []) (l₂ := cs.map fun p => check p.1 p.2 st)
    (r₂ := [nonRevokable]) (by simp)
  simpa [results, List.zip_map'] using this

/-- exactly one result per certificate, in chain order, the root NonRevokable, each non-root slot
    the check of the certificate at that position -/
theorem C12_complete (n : Nat) (cs : List (Env × Cert)) (st : Time) (rs : List CertResult)
    (h : validate n true cs st = .ok rs) :
    rs.length = cs.length + 1 ∧
    rs[cs.length]? = some nonRevokable ∧
    ∀ k (hk : k < cs.length), rs[k]? = some (certCheck cs[k].1 cs[k].2 st) :=
  validate_ok h ▸ results_spec certCheck cs st

theorem C12_complete_standalone (n : Nat) (cs : List (Env × Cert)) (st : Time) (rs : List CertResult)
    (h : checkStatus n true cs st = .ok rs) :
    rs.length = cs.length + 1 ∧
    rs[cs.length]? = some nonRevokable ∧
    ∀ k (hk : k < cs.length), rs[k]? = some (certCheckOcspOnly cs[k].1 cs[k].2 st) :=
  checkStatus_ok h ▸ results_spec certCheckOcspOnly cs st

/-- OCSP result: one decisive entry whose verdict is the overall verdict, or one entry per
    responder, in order, all Unknown, overall Unknown -/
theorem C12_ocsp_shape (e : Ocsp.Env) (urls : List Url) (st : Time) (hne : urls ≠ []) :
    let r := Ocsp.certCheckStatus e urls st
    r.method = .ocsp ∧
    ((∃ s, r.servers = [s] ∧ r.result = s.result ∧ s.server ∈ urls ∧ Ocsp.decisive s = true) ∨
     (r.result = .unknown ∧ r.servers.map (·.server) = urls ∧ ∀ s ∈ r.servers, s.result = .unknown)) := by
  simp only [ocsp_certCheckStatus_eq e urls st hne]
  cases hf : urls.find? (fun u => Ocsp.decisive (Ocsp.checkStatusFromServer e st u)) with
  | some u =>
    exact ⟨rfl, .inl ⟨_, rfl, rfl, by rw [server_name]; exact List.mem_of_find?_eq_some hf,
      List.find?_some (p := fun u => Ocsp.decisive (Ocsp.checkStatusFromServer e st u)) hf⟩⟩
  | none =>
    refine ⟨rfl, .inr ⟨rfl, by simp [Function.comp_def, server_name], ?_⟩⟩
    simp only [List.mem_map]
    rintro s ⟨u, hu, rfl⟩
    exact indecisive_unknown (by simpa using List.find?_eq_none.mp hf u hu)

/-- documented shape of an OCSP server-result list for overall verdict `res`: one *decisive* entry
    (an answer: OK, Revoked, or Unknown because the responder said so), or one entry per responder,
    in order, all Unknown -/
def OcspShape (urls : List Url) (res : Result) (os : List ServerResult) : Prop :=
  (∃ s, os = [s] ∧ res = s.result ∧ s.server ∈ urls ∧ Ocsp.decisive s = true) ∨
  (res = .unknown ∧ os.map (·.server) = urls ∧ ∀ s ∈ os, s.result = .unknown)

/-- documented shape of a CRL server-result list for overall verdict `res` -/
def CrlShape (dps : List Url) (res : Result) (ks : List ServerResult) : Prop :=
  (res = .ok ∧ ks.map (·.server) = dps ∧ ∀ s ∈ ks, s.result = .ok) ∨
  ((res = .revoked ∨ res = .unknown) ∧ ∃ s, ks = [s] ∧ s.result = res ∧ s.server ∈ dps)

theorem ocspShape_of (e : Ocsp.Env) (urls : List Url) (st : Time) (hne : urls ≠ []) :
    OcspShape urls (Ocsp.certCheckStatus e urls st).result (Ocsp.certCheckStatus e urls st).servers ∧
    (Ocsp.certCheckStatus e urls st).method = .ocsp :=
  ⟨(C12_ocsp_shape e urls st hne).2, (C12_ocsp_shape e urls st hne).1⟩

theorem crlShape_of (e : Crl.Env) (c : Crl.RCert) (st : Time) (hne : c.crlDPs ≠ []) :
    CrlShape c.crlDPs (Crl.certCheckStatus e c st).result (Crl.certCheckStatus e c st).servers ∧
    (Crl.certCheckStatus e c st).method = .crl := by
  rcases loop_cases (crl_loop e c st hne) with ⟨h, _⟩ | ⟨_, u, _, hus, _, _, ⟨h, _⟩ | ⟨h, _⟩⟩ <;> rw [h]
  · exact ⟨.inl ⟨rfl, by simp [Function.comp_def], by simp⟩, rfl⟩
  · exact ⟨.inr ⟨.inl rfl, _, rfl, rfl, hus ▸ List.mem_append_cons_self⟩, rfl⟩
  · exact ⟨.inr ⟨.inr rfl, _, rfl, rfl, hus ▸ List.mem_append_cons_self⟩, rfl⟩

/-- the verdict of a result agrees with its server results as documented for its method -/
def Consistent (c : Cert) (r : CertResult) : Prop :=
  (r.method = .ocsp → OcspShape c.ocsp r.result r.servers) ∧
  (r.method = .crl → CrlShape c.crlDPs r.result r.servers) ∧
  (r.method = .ocspFallbackCrl →
      ∃ os ks, r.servers = os ++ ks ∧ OcspShape c.ocsp .unknown os ∧ CrlShape c.crlDPs r.result ks) ∧
  (r.method = .unknown → r = nonRevokable ∧ c.ocsp = [] ∧ c.crlDPs = [])

theorem certCheck_consistent (env : Env) (c : Cert) (st : Time) : Consistent c (certCheck env c st) := by
  refine certCheck_cases env c st (P := fun r _ => Consistent c r) ?_ ?_ ?_ ?_ <;> unfold Consistent
  · intro ho hk; simp [nonRevokable, ho, hk]
  · intro _ hk
    obtain ⟨sh, hm⟩ := crlShape_of env.crl c.toCrl st hk
    simp only [hm, reduceCtorEq, false_imp_iff, true_and, and_true, forall_const]; exact sh
  · intro ho _
    obtain ⟨sh, hm⟩ := ocspShape_of env.ocsp c.ocsp st ho
    simp only [hm, reduceCtorEq, false_imp_iff, and_true, forall_const]; exact sh
  · intro ho hr hk
    simp only [reduceCtorEq, false_imp_iff, true_and, and_true, forall_const]
    exact ⟨_, _, rfl, hr ▸ (ocspShape_of env.ocsp c.ocsp st ho).1, (crlShape_of env.crl c.toCrl st hk).1⟩

/-- **C12 (consistency)**: for every certificate, environment and signing time the result's
    verdict agrees with its server results as documented -/
theorem C12_consistent (env : Env) (c : Cert) (st : Time) :
    let r := certCheck env c st
    (r.method = .ocsp → OcspShape c.ocsp r.result r.servers) ∧
    (r.method = .crl → CrlShape c.crlDPs r.result r.servers) ∧
    (r.method = .ocspFallbackCrl →
        ∃ os ks, r.servers = os ++ ks ∧ OcspShape c.ocsp .unknown os ∧ CrlShape c.crlDPs r.result ks) ∧
    (r.method = .unknown → r = nonRevokable ∧ c.ocsp = [] ∧ c.crlDPs = []) :=
  certCheck_consistent env c st

theorem OcspShape.entry {urls : List Url} {res : Result} {os : List ServerResult} (h : OcspShape urls res os) :
    ∀ s ∈ os, s.server ∈ urls ∧ (s.result = .revoked → res = .revoked) := by
  rcases h with ⟨s', rfl, rfl, hm, _⟩ | ⟨_, rfl, hu⟩
  · simpa using hm
  · exact fun s hs => ⟨List.mem_map.mpr ⟨s, hs, rfl⟩, fun hr => by rw [hu s hs] at hr; cases hr⟩

theorem CrlShape.entry {dps : List Url} {res : Result} {ks : List ServerResult} (h : CrlShape dps res ks) :
    ∀ s ∈ ks, s.server ∈ dps ∧ (s.result = .revoked → res = .revoked) := by
  rcases h with ⟨_, rfl, hok⟩ | ⟨_, s', rfl, rfl, hm⟩
  · exact fun s hs => ⟨List.mem_map.mpr ⟨s, hs, rfl⟩, fun hr => by rw [hok s hs] at hr; cases hr⟩
  · simpa using hm

theorem Consistent.entry {c : Cert} {r : CertResult} (h : Consistent c r) :
    ∀ s ∈ r.servers, (s.server = "" ∨ s.server ∈ c.ocsp ++ c.crlDPs) ∧ (s.result = .revoked → r.result = .revoked) := by
  obtain ⟨h1, h2, h3, h4⟩ := h
  intro s hs
  cases hm : r.method with
  | ocsp => exact ((h1 hm).entry s hs).imp (fun h => .inr (List.mem_append_left _ h)) id
  | crl => exact ((h2 hm).entry s hs).imp (fun h => .inr (List.mem_append_right _ h)) id
  | ocspFallbackCrl =>
    obtain ⟨os, ks, e, ho, hk⟩ := h3 hm
    rcases List.mem_append.mp (e ▸ hs) with hs | hs
    · exact ⟨.inr (List.mem_append_left _ (ho.entry s hs).1), fun h => nomatch (ho.entry s hs).2 h⟩
    · exact (hk.entry s hs).imp (fun h => .inr (List.mem_append_right _ h)) id
  | unknown =>
    obtain ⟨rfl, _⟩ := h4 hm
    obtain rfl := List.mem_singleton.mp hs
    exact ⟨.inl rfl, nofun⟩

/-- **C12 (OK never coexists with a Revoked entry)** -/
theorem C12_ok_no_revoked (env : Env) (c : Cert) (st : Time)
    (h : (certCheck env c st).result = .ok) : ∀ s ∈ (certCheck env c st).servers, s.result ≠ .revoked :=
  fun s hs hr => by rw [((certCheck_consistent env c st).entry s hs).2 hr] at h; cases h

/-- **C12 (positional)**: the server results of a certificate name only that certificate's URLs
    (or no server at all) -/
theorem C12_positional (env : Env) (c : Cert) (st : Time) :
    ∀ s ∈ (certCheck env c st).servers, s.server = "" ∨ s.server ∈ c.ocsp ++ c.crlDPs :=
  fun s hs => ((certCheck_consistent env c st).entry s hs).1

end NotationCore.Props
