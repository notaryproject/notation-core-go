import NotationCore.Model.Sign
import NotationCore.Proofs.Envelope
/-!
  C16 — invalid sign requests never produce an envelope.
  (With `sign_ok_iff` below: the valid requests are exactly the ones that do.)
-/
namespace NotationCore.Props
open Base Algorithm Sign

/-- the key collides with a header defined by the envelope specification -/
def Collides (fmt : Fmt) (k : ReqKey) : Prop :=
  match fmt, k with
  | .jws, .str _ folds => folds = true
  | .cose, .str s _ => s ∈ specLabelsCoseText
  | .cose, .int i => i ∈ specLabelsCoseInt
  | _, _ => False

/-- the attribute keys are acceptable: every key representable in the format, none colliding with a
    specification header, no key repeated (after the format's normalisation) -/
def KeysOK (fmt : Fmt) (ext : List ReqAttr) : Prop :=
  (∀ a ∈ ext, (normKey fmt a.key).isSome = true) ∧ (∀ a ∈ ext, ¬ Collides fmt a.key) ∧
  (ext.filterMap (fun a => normKey fmt a.key)).Nodup

/-- one round of the loop says the same in both formats and for every kind of key -/
theorem extOK_cons (fmt : Fmt) (a : ReqAttr) (as : List ReqAttr) (seen : List AKey) :
    extOK fmt (a :: as) seen = true ↔
      ∃ k, normKey fmt a.key = some k ∧ ¬ Collides fmt a.key ∧ k ∉ seen ∧ extOK fmt as (k :: seen) = true := by
  cases fmt <;> cases hk : a.key <;> simp [extOK, normKey, Collides, hk, and_assoc]
  exact and_left_comm

theorem extOK_iff (fmt : Fmt) (ext : List ReqAttr) (seen : List AKey) :
    extOK fmt ext seen = true ↔ KeysOK fmt ext ∧ ∀ k ∈ ext.filterMap (fun a => normKey fmt a.key), k ∉ seen := by
  simp only [KeysOK, and_assoc]
  induction ext generalizing seen with
  | nil => simp [extOK]
  | cons a as ih =>
    rw [extOK_cons]
    cases hk : normKey fmt a.key with
    | none => simp [hk]
    | some k =>
      simp only [Option.some.injEq, exists_eq_left', ih, List.mem_cons, forall_eq_or_imp, hk, Option.isSome_some,
        true_and, List.filterMap_cons, List.nodup_cons, not_or, imp_and, forall_and, List.forall_mem_ne']
      -- the same conjuncts on both sides, in another order
      exact ⟨fun ⟨c, s, a, b, n, kl, r⟩ => ⟨a, ⟨c, b⟩, ⟨kl, n⟩, s, r⟩, fun ⟨a, ⟨c, b⟩, ⟨kl, n⟩, s, r⟩ => ⟨c, s, a, b, n, kl, r⟩⟩

theorem extOK_keysOK (fmt : Fmt) (ext : List ReqAttr) : extOK fmt ext [] = true ↔ KeysOK fmt ext := by
  simp [extOK_iff]

/-- the signer delivers a usable key and a chain that conforms at the (truncated) signing time and
    whose leaf key is the declared one -/
def SignerOK (r : Req) : Prop :=
  ∃ s ks ci, r.signer = some s ∧ s.keySpec = some ks ∧ signatureAlgorithm ks ≠ 0 ∧ s.signs = true ∧ s.sigLen ≠ 0 ∧
    s.chain = some ci ∧ validateCertificateChain ci (some (truncSec r.signingTime)) (signatureAlgorithm ks) = true

def ValidRequest (fmt : Fmt) (r : Req) : Prop :=
  r.payloadLen ≠ 0 ∧ (fmt = .jws → r.jwsObject = true) ∧ (fmt = .cose → r.ctyOK = true) ∧
  truncSec r.signingTime ≠ zeroT ∧ (truncSec r.expiry = zeroT ∨ truncSec r.signingTime < truncSec r.expiry) ∧
  r.timesEncodable = true ∧
  (r.scheme = schemeX509 ∨ r.scheme = schemeAuthority) ∧
  SignerOK r ∧ KeysOK fmt r.ext ∧ (∀ a ∈ r.ext, a.encodable = true) ∧
  (r.scheme = schemeX509 → r.ts ≠ .fails)

theorem emptyChain_invalid (st : Option Time) (alg : Nat) : validateCertificateChain emptyChain st alg = false := by
  cases st <;> rfl

/-- a delivered chain that validates is the signer's own (the COSE stand-in for a nil chain never validates) -/
theorem deliveredChain_valid (fmt : Fmt) (s : Signer) (ci : ChainInfo) (st : Option Time) (alg : Nat)
    (h : deliveredChain fmt s = some ci) (hv : validateCertificateChain ci st alg = true) : s.chain = some ci := by
  unfold deliveredChain at h
  cases hc : s.chain with
  | some c => simpa [hc] using h
  | none =>
    cases fmt <;> simp only [hc, reduceCtorEq, Option.some.injEq] at h
    rw [← h, emptyChain_invalid] at hv; cases hv

theorem prepare_ok_iff (fmt : Fmt) (r : Req) (p : Prepared) :
    prepare fmt r = .ok p ↔
      (r.payloadLen ≠ 0 ∧ validateSigningAndExpiryTime (truncSec r.signingTime) (truncSec r.expiry) = true ∧
       r.signer = some p.s ∧ p.s.keySpec = some p.ks ∧ r.scheme ≠ "" ∧ signatureAlgorithm p.ks ≠ 0 ∧
       (r.scheme = schemeX509 ∨ r.scheme = schemeAuthority) ∧ extOK fmt r.ext [] = true ∧ r.timesEncodable = true ∧
       (fmt = .jws → r.jwsObject = true) ∧ (fmt = .cose → r.ctyOK = true) ∧ (∀ a ∈ r.ext, a.encodable = true) ∧
       p.s.signs = true ∧ deliveredChain fmt p.s = some p.ci ∧ tsStep r = some p.tst ∧ (fmt = .cose → p.s.sigLen ≠ 0)) := by
  constructor
  · intro h
    unfold prepare at h
    simp only [Proofs.guard_passed, ne_eq, reduceCtorEq, not_false_eq_true] at h
    obtain ⟨h1, h2, h⟩ := h
    -- each `match` took its `some` branch, and the value it found is a component of `p`
    split at h
    · cases h
    split at h
    · cases h
    simp only [Proofs.guard_passed, ne_eq, reduceCtorEq, not_false_eq_true] at h
    obtain ⟨h3, h4, h5, h6, h7, h8, h9, h10, h11, h12, h⟩ := h
    split at h
    · cases h
    split at h
    · cases h
    cases h
    simp only [beq_eq_false_iff_ne, Bool.not_eq_false', Bool.or_eq_true, beq_iff_eq, Bool.and_eq_false_imp,
      List.all_eq_true, ne_eq] at h1 h2 h3 h4 h5 h6 h7 h8 h9 h10 h11 h12
    exact ⟨h1, h2, ‹_›, ‹_›, h3, h4, h5, h6, h7, h8, h9, h10, h11, ‹_›, ‹_›, h12⟩
  · rintro ⟨h1, h2, h3, h4, h5, h6, h7, h8, h9, h10, h11, h12, h13, h14, h15, h16⟩
    have h7' : (r.scheme == schemeX509 || r.scheme == schemeAuthority) = true := by simpa using h7
    have h12' : r.ext.all (·.encodable) = true := by simpa using h12
    cases fmt <;> simp [prepare, *]

theorem finish_ok_iff (fmt : Fmt) (r : Req) (p : Prepared) (c : Content) :
    finish fmt r p = .ok c ↔
      (p.s.sigLen ≠ 0 ∧ validateCertificateChain p.ci (some (truncSec r.signingTime)) (signatureAlgorithm p.ks) = true ∧
       c = contentOf fmt r p.s p.ci (signatureAlgorithm p.ks) p.tst) := by
  simp only [finish, Proofs.guard_passed, ne_eq, reduceCtorEq, not_false_eq_true, beq_eq_false_iff_ne, Bool.not_eq_false',
    Result.ok.injEq, eq_comm (b := c)]

theorem tsStep_some_iff (r : Req) : (∃ t, tsStep r = some t) ↔ (r.scheme = schemeX509 → r.ts ≠ .fails) := by
  unfold tsStep
  by_cases hx : r.scheme = schemeX509
  · cases r.ts <;> simp [hx]
  · simp [hx]

theorem sign_eq_ok_iff (fmt : Fmt) (r : Req) (c : Content) :
    sign fmt r = .ok c ↔ ∃ p, prepare fmt r = .ok p ∧ finish fmt r p = .ok c := by
  unfold sign
  cases prepare fmt r <;> simp

theorem sign_ok_inv {fmt : Fmt} {r : Req} {c : Content} (h : sign fmt r = .ok c) :
    ∃ p, prepare fmt r = .ok p ∧ r.signer = some p.s ∧ p.s.keySpec = some p.ks ∧ p.s.chain = some p.ci ∧
      tsStep r = some p.tst ∧ p.s.sigLen ≠ 0 ∧
      validateCertificateChain p.ci (some (truncSec r.signingTime)) (signatureAlgorithm p.ks) = true ∧
      c = contentOf fmt r p.s p.ci (signatureAlgorithm p.ks) p.tst := by
  obtain ⟨p, hp, hf⟩ := (sign_eq_ok_iff fmt r c).mp h
  obtain ⟨_, _, a3, a4, _, _, _, _, _, _, _, _, _, a14, a15, _⟩ := (prepare_ok_iff fmt r p).mp hp
  obtain ⟨b1, b2, hc⟩ := (finish_ok_iff fmt r p c).mp hf
  exact ⟨p, hp, a3, a4, deliveredChain_valid fmt p.s p.ci _ _ a14 b2, a15, b1, b2, hc⟩

/-- **C16 / C08 (exactly the valid requests sign)**: signing succeeds iff the request is valid -/
theorem sign_ok_iff (fmt : Fmt) (r : Req) :
    (∃ c, sign fmt r = .ok c) ↔ ValidRequest fmt r := by
  constructor
  · rintro ⟨c, h⟩
    obtain ⟨p, hp, a3, a4, hch, a15, b1, b2, _⟩ := sign_ok_inv h
    obtain ⟨a1, a2, _, _, _, a6, a7, a8, a9, a10, a11, a12, a13, _⟩ := (prepare_ok_iff fmt r p).mp hp
    obtain ⟨t1, t2⟩ := (Proofs.Envelope.validateSigningAndExpiryTime_iff _ _).mp a2
    exact ⟨a1, a10, a11, t1, t2, a9, a7, ⟨p.s, p.ks, p.ci, a3, a4, a6, a13, b1, hch, b2⟩, (extOK_keysOK fmt r.ext).mp a8, a12,
      (tsStep_some_iff r).mp ⟨p.tst, a15⟩⟩
  · rintro ⟨v1, v2, v3, v4, v5, v6, v7, ⟨s, ks, ci, s1, s2, s3, s4, s5, s6, s7⟩, v9, v10, v11⟩
    obtain ⟨tst, ht⟩ := (tsStep_some_iff r).mpr v11
    have hne : r.scheme ≠ "" := by
      rcases v7 with h | h <;> rw [h] <;> decide
    refine ⟨_, (sign_eq_ok_iff fmt r _).mpr ⟨⟨s, ks, ci, tst⟩, (prepare_ok_iff fmt r _).mpr ?_, (finish_ok_iff fmt r _ _).mpr ⟨s5, s7, rfl⟩⟩⟩
    exact ⟨v1, (Proofs.Envelope.validateSigningAndExpiryTime_iff _ _).mpr ⟨v4, v5⟩, s1, s2, hne, s3, v7, (extOK_keysOK fmt r.ext).mpr v9,
      v6, v2, v3, v10, s4, by simp [deliveredChain, s6], ht, fun _ => s5⟩

def isPanic : Sign.Result → Bool
  | .panic _ => true
  | _ => false

/-- the model has no panic site left (the unhashable-key map lookup was repaired): `sign` never
    evaluates to `.panic` -/
theorem sign_not_panic (fmt : Fmt) (r : Req) : isPanic (sign fmt r) = false := by
  unfold sign
  cases prepare fmt r with
  | error e => rfl
  | ok p =>
    simp only [finish]
    split
    · rfl
    · split <;> rfl

/-- **C16 (never a panic)**: for every request whatsoever (no branch of the model of `Sign` constructs a panic: the
    statement holds by inspection of `prepare` and `finish`) -/
theorem C16_never_panics (fmt : Fmt) (r : Req) : ∀ site, sign fmt r ≠ .panic site := by
  intro site hr
  have := sign_not_panic fmt r
  rw [hr] at this; cases this

theorem sign_err_iff (fmt : Fmt) (r : Req) : (∃ e stage, sign fmt r = .err e stage) ↔ ¬ ValidRequest fmt r := by
  rw [← sign_ok_iff]
  cases hr : sign fmt r with
  | ok c => simp
  | err e stage => simp
  | panic site => exact absurd hr (C16_never_panics fmt r site)

/-- every way a request can be invalid, as the property lists them -/
def Invalid (fmt : Fmt) (r : Req) : Prop :=
  r.payloadLen = 0 ∨ (fmt = .jws ∧ r.jwsObject = false) ∨
  truncSec r.signingTime = zeroT ∨
  (truncSec r.expiry ≠ zeroT ∧ truncSec r.expiry ≤ truncSec r.signingTime) ∨
  (r.scheme ≠ schemeX509 ∧ r.scheme ≠ schemeAuthority) ∨
  r.signer = none ∨
  (∃ s, r.signer = some s ∧ (s.keySpec = none ∨ (∃ ks, s.keySpec = some ks ∧ signatureAlgorithm ks = 0) ∨
      s.signs = false ∨ s.chain = none ∨
      (∃ ks ci, s.keySpec = some ks ∧ s.chain = some ci ∧
        validateCertificateChain ci (some (truncSec r.signingTime)) (signatureAlgorithm ks) = false))) ∨
  ¬ KeysOK fmt r.ext

/-- **C16**: an invalid request yields an error — and, by construction of `Result`, an error
    carries no envelope bytes -/
theorem C16 (fmt : Fmt) (r : Req) (h : Invalid fmt r) : ∃ e stage, sign fmt r = .err e stage := by
  rw [sign_err_iff]
  rintro ⟨v1, v2, _, v4, v5, _, v7, ⟨s, ks, ci, s1, s2, s3, s4, _, s6, s7⟩, v9, _, _⟩
  rcases h with h | ⟨h1, h2⟩ | h | ⟨h1, h2⟩ | ⟨h1, h2⟩ | h | ⟨s', hs', h⟩ | h
  · exact v1 h
  · rw [v2 h1] at h2; cases h2
  · exact v4 h
  · rcases v5 with h' | h'
    · exact h1 h'
    · omega
  · rcases v7 with h' | h'
    · exact h1 h'
    · exact h2 h'
  · rw [s1] at h; cases h
  · rw [s1] at hs'; cases hs'
    rcases h with h | ⟨ks', hk, h⟩ | h | h | ⟨ks', ci', hk, hc, h⟩
    · rw [s2] at h; cases h
    · rw [s2] at hk; cases hk; exact s3 h
    · rw [s4] at h; cases h
    · rw [s6] at h; cases h
    · rw [s2] at hk; cases hk; rw [s6] at hc; cases hc; rw [s7] at h; cases h
  · exact h v9

/-- what "chain fails / leaf key does not match the declared key" means for the signer's chain -/
theorem C16_chain_clause (ci : ChainInfo) (st : Time) (alg : Nat) :
    validateCertificateChain ci (some st) alg = true →
      ∃ leaf rest, ci.certs = leaf :: rest ∧ Spec.Conforms .codeSigning ci.sigF ci.sigSelfF ci.certs (some st) ∧
        keyAlg leaf.key = some alg :=
  (Proofs.Envelope.validateCertificateChain_iff ci (some st) alg).mp

/-- **C16 (local signer)**: a local signer cannot be constructed from a private key that does not
    belong to the leaf certificate, from no certificates, or for an unapproved leaf key -/
theorem C16_signer (certs : List Chain.Cert) (keyMatchesLeaf : Bool) :
    (newLocalSigner certs keyMatchesLeaf).isSome = true ↔
      ∃ leaf rest, certs = leaf :: rest ∧ leaf.key ∈ Spec.approvedKeys ∧ keyMatchesLeaf = true := by
  cases certs with
  | nil => simp [newLocalSigner]
  | cons leaf rest =>
    simp only [newLocalSigner, List.cons.injEq, ← Proofs.Chain.extractKeySpec_isSome]
    cases h : extractKeySpec leaf.key <;> cases keyMatchesLeaf <;> simp [h]

/-- **C08 (content of a successful signing)** -/
theorem C08_content_of_request (fmt : Fmt) (r : Req) (c : Content) (h : sign fmt r = .ok c) :
    c.payload = r.payload ∧ c.payloadLen = r.payloadLen ∧ c.cty = r.cty ∧ c.scheme = r.scheme ∧
    c.signingTime = truncSec r.signingTime ∧ c.expiry = truncSec r.expiry ∧
    c.extAttrs = attrsOf fmt r.ext ∧ c.agent = r.agent ∧
    ∃ s ks ci, r.signer = some s ∧ s.keySpec = some ks ∧ s.chain = some ci ∧
      c.alg = signatureAlgorithm ks ∧ c.chain = ci.certs.map (·.id) := by
  obtain ⟨p, _, a3, a4, hch, _, _, _, rfl⟩ := sign_ok_inv h
  exact ⟨rfl, rfl, rfl, rfl, rfl, rfl, rfl, rfl, p.s, p.ks, p.ci, a3, a4, hch, rfl, rfl⟩

end NotationCore.Props
