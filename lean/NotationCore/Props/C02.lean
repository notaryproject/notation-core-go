import NotationCore.Proofs.Envelope
/-!
  C02 — only the six approved algorithms, each bound to its key type and size.

  `table` (in `Proofs.Envelope`) is the specification: six rows
  (key, signature.Algorithm, JWS name, COSE id, crypto.Hash).  The model's functions are defined
  over the tables *regenerated from the Go switch statements on every run*, so these theorems are
  re-proved about what the code says now.
-/
namespace NotationCore.Props
open Base Algorithm Proofs.Envelope Proofs.Jws

/-- `ExtractKeySpec` accepts exactly the six approved keys — for every RSA modulus size and every
    curve size, not a sample -/
theorem C02_keyspec (k : Key) : (extractKeySpec k).isSome = true ↔ k ∈ Spec.approvedKeys :=
  Proofs.Chain.extractKeySpec_isSome k

/-- key ↦ algorithm ↦ hash is exactly the table; everything else maps to "unsupported" -/
theorem C02_table :
    (∀ row ∈ table, keyAlg row.1 = some row.2.1 ∧ Algorithm.hash row.2.1 = row.2.2.2.2 ∧
        jwsAlgName row.2.1 = some row.2.2.1 ∧ jwsAlgOfName row.2.2.1 = some row.2.1 ∧
        Cose.keyCoseAlg row.1 = some row.2.2.2.1 ∧ coseAlgToAlg row.2.2.2.1 = some row.2.1 ∧
        coseHash row.2.2.2.1 = some row.2.2.2.2) ∧
    (∀ k, k ∉ Spec.approvedKeys → keyAlg k = none ∧ Cose.keyCoseAlg k = none) := by
  refine ⟨by decide, ?_⟩
  intro k hk
  have : extractKeySpec k = none := by
    cases h : extractKeySpec k with
    | none => rfl
    | some ks => exact absurd ((C02_keyspec k).mp (by rw [h]; rfl)) hk
  simp [keyAlg, Cose.keyCoseAlg, this]

/-- hash of anything that is not one of the six algorithm values is "none" (0) -/
theorem C02_hash_only_six (a : Nat) (h : Algorithm.hash a ≠ 0) : ∃ row ∈ table, row.2.1 = a ∧ Algorithm.hash a = row.2.2.2.2 := by
  unfold Algorithm.hash at h ⊢
  cases hl : Generated.hashTable.lookup a with
  | none => rw [hl] at h; exact absurd rfl h
  | some v =>
    -- a hit in the regenerated table is one of its entries, and each entry is a row
    have rows : ∀ p ∈ Generated.hashTable, ∃ row ∈ table, row.2.1 = p.1 ∧ p.2 = row.2.2.2.2 := by decide
    exact rows (a, v) (lookup_mem hl)

/-- the leaf certificate the envelope's signature was checked against is the leaf certificate of
    the chain that was validated -/
def LeafConsistent (leafKey : Key) (ci : ChainInfo) : Prop :=
  ∀ leaf rest, ci.certs = leaf :: rest → leaf.key = leafKey

/-- whatever reader the wrapper accepts content from, the algorithm reported is the one of the
    table row of the validated chain's leaf key -/
theorem wrapRead_alg_row {k : Key} {ci : ChainInfo} {o : Out Content} {c : Content}
    (hcons : LeafConsistent k ci) (hv : wrapRead false ci o = .val c) :
    ∃ row ∈ table, row.1 = k ∧ c.alg = row.2.1 := by
  obtain ⟨_, _, hval⟩ := (wrapRead_eq_val_iff ..).mp hv
  obtain ⟨leaf, rest, hcerts, _, hkey⟩ :=
    (validateCertificateChain_iff ..).mp ((validateEnvelopeContent_iff ..).mp hval).2.2.2.2.2
  obtain ⟨row, hrow, hr1, hr2⟩ := keyAlg_table leaf.key c.alg hkey
  exact ⟨row, hrow, hr1.trans (hcons leaf rest hcerts), hr2.symm⟩

/-- everything that is known when the wrapped `Jws.verify` succeeds: the content is read from the
    signed members, and the name golang-jwt verified the signature with, the name the struct decode
    ends up with and the algorithm reported all belong to the row of the leaf key -/
theorem jws_verified (e : Jws.Env) (ci : ChainInfo) (c : Content)
    (hcons : LeafConsistent e.leafKey ci) (hv : wrapRead false ci (Jws.verify e) = .val c) :
    ∃ row ∈ table, ∃ ms h, row.1 = e.leafKey ∧ e.prot = .obj ms ∧ Jws.jwtAlg ms = some row.2.2.1 ∧
      e.sigok.lookup row.2.2.1 = some true ∧ Reads e ms h row.2.1 ∧ c = Jws.contentOf e ms h row.2.1 := by
  obtain ⟨row, hrow, hr1, hr2⟩ := wrapRead_alg_row hcons hv
  obtain ⟨_, hjwt, hcontent⟩ := (verify_eq_val_iff e c).mp ((wrapRead_eq_val_iff ..).mp hv).2.1
  obtain ⟨_, ms, a, hp, hja, _, _, _, _, hsig⟩ := (verifyJWT_iff e).mp hjwt
  obtain ⟨ms', h, alg, r, rfl⟩ := (content_eq_val_iff e c).mp hcontent
  obtain rfl : ms = ms' := by have := r.members; rw [hp] at this; exact Option.some.inj this
  obtain rfl : h.alg = a := decodeHdr_alg ms {} h a r.decodes hja
  -- the row of the key and the row of the decoded name carry the same algorithm: they are one row
  obtain ⟨row', hrow', hr1', hr2'⟩ := jwsAlgOfName_table h.alg alg r.alg
  obtain rfl := table_alg_inj row hrow row' hrow' (hr2.symm.trans hr1'.symm)
  exact ⟨row, hrow, ms, h, hr1, hp, hr2' ▸ hja, hr2' ▸ hsig, hr1' ▸ r, hr1' ▸ rfl⟩

/-- **C02 (JWS verify)**: a verified JWS envelope was checked with, and reports, the one algorithm
    of the table row of its leaf key: the name golang-jwt verified the signature with (`jwtAlg`,
    gated by `validMethods`), the algorithm reported in the content, and the key's row all agree -/
theorem C02_verify_jws (e : Jws.Env) (ci : ChainInfo) (c : Content)
    (hcons : LeafConsistent e.leafKey ci)
    (hv : wrapRead false ci (Jws.verify e) = .val c) :
    ∃ row ∈ table, row.1 = e.leafKey ∧ c.alg = row.2.1 ∧
      ∃ ms, e.prot = .obj ms ∧ Jws.jwtAlg ms = some row.2.2.1 ∧ e.sigok.lookup row.2.2.1 = some true := by
  obtain ⟨row, hrow, ms, h, h1, hp, hj, hs, _, rfl⟩ := jws_verified e ci c hcons hv
  exact ⟨row, hrow, h1, rfl, ms, hp, hj, hs⟩

/-- **C02 (JWS content)**: content extraction, too, reports only a table algorithm matching the
    leaf key -/
theorem C02_content_jws (e : Jws.Env) (ci : ChainInfo) (c : Content)
    (hcons : LeafConsistent e.leafKey ci)
    (hv : wrapRead false ci (Jws.content e) = .val c) :
    ∃ row ∈ table, row.1 = e.leafKey ∧ c.alg = row.2.1 :=
  wrapRead_alg_row hcons hv

/-- **C02 (COSE verify)**: the verifier's algorithm is the one dictated by the leaf key, the signed
    header declares exactly that algorithm, and it is the one reported -/
theorem C02_verify_cose (e : Cose.Env) (ci : ChainInfo) (c : Content)
    (hv : wrapRead false ci (Cose.verify e) = .val c) :
    ∃ row ∈ table, row.1 = e.leafKey ∧ c.alg = row.2.1 ∧ Cose.headerAlg e = some row.2.2.2.1 ∧ e.sigok = true := by
  obtain ⟨cty, scheme, st, ex, row, S, rfl⟩ := (cose_verify_iff e ci c).mp hv
  exact ⟨row, S.keyRow.1, S.keyRow.2, rfl, headerAlg_eq_some.mpr S.alg, S.signature.2⟩

theorem C02_content_cose (e : Cose.Env) (ci : ChainInfo) (c : Content)
    (hcons : LeafConsistent e.leafKey ci)
    (hv : wrapRead false ci (Cose.content e) = .val c) :
    ∃ row ∈ table, row.1 = e.leafKey ∧ c.alg = row.2.1 :=
  wrapRead_alg_row hcons hv

/-- any other declared JWS algorithm (none, HS*, RS*, EdDSA, ES256K, lower case, …) is rejected,
    even when `sigok` says the signature verifies for it -/
theorem C02_jws_other_alg_rejected (e : Jws.Env) (ms : List Jws.Member) (a : String)
    (hp : e.prot = .obj ms) (ha : Jws.jwtAlg ms = some a)
    (hnot : a ∉ ["PS256", "PS384", "PS512", "ES256", "ES384", "ES512"]) : Jws.verifyJWT e = false := by
  -- the `validMethods` gate: a verified name is one of the regenerated list, which is these six
  refine Bool.eq_false_iff.mpr fun hj => hnot ?_
  obtain ⟨_, ms', a', hp', ha', hm, _⟩ := (verifyJWT_iff e).mp hj
  obtain rfl : ms = ms' := by rw [hp] at hp'; exact Jws.ProtHdr.obj.inj hp'
  obtain rfl := Option.some.inj (ha.symm.trans ha')
  have six : ∀ x ∈ Generated.validMethods, x ∈ ["PS256", "PS384", "PS512", "ES256", "ES384", "ES512"] := by decide
  exact six a (by simpa using hm)

/-- a mismatch between the declared algorithm and the leaf key is rejected by both read
    operations even when the signature is valid for the declared algorithm (JWS) -/
theorem C02_jws_mismatch_rejected (e : Jws.Env) (ci : ChainInfo) (c : Content) (row row' : Key × Nat × String × Int × Nat)
    (hrow : row ∈ table) (hrow' : row' ∈ table) (hne : row ≠ row')
    (hcons : LeafConsistent e.leafKey ci) (hkey : e.leafKey = row.1)
    (hv : wrapRead false ci (Jws.content e) = .val c) : c.alg ≠ row'.2.1 := by
  obtain ⟨r, hr, h1, h2⟩ := C02_content_jws e ci c hcons hv
  intro h
  have : r = row := table_key_inj r hr row hrow (by rw [h1, hkey])
  subst this
  exact hne (table_alg_inj r hr row' hrow' (by rw [← h2, h]))

end NotationCore.Props
