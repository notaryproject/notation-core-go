import NotationCore.Props.C01
/-!
  C07 — content returned from an envelope obeys the Notary signed-attribute rules.
-/
namespace NotationCore.Props
open Base Algorithm Proofs.Envelope Proofs.Jws

/-- what both formats guarantee about any content that passed the base wrapper -/
structure BaseRules (ci : ChainInfo) (c : Content) : Prop where
  payload_nonempty : c.payloadLen ≠ 0
  signature_nonempty : c.sigLen ≠ 0
  signing_time_present : c.signingTime ≠ zeroT
  expiry_later : c.expiry = zeroT ∨ c.signingTime < c.expiry
  chain_conforms : Spec.Conforms .codeSigning ci.sigF ci.sigSelfF ci.certs none
  alg_matches_leaf : ∃ leaf rest, ci.certs = leaf :: rest ∧ keyAlg leaf.key = some c.alg

theorem validateEnvelopeContent_baseRules (ci : ChainInfo) (c : Content) :
    validateEnvelopeContent ci c = true ↔ BaseRules ci c ∧ c.alg ≠ 0 ∧ c.scheme ≠ "" := by
  rw [validateEnvelopeContent_iff, validateSigningAndExpiryTime_iff, validateCertificateChain_iff]
  exact ⟨fun ⟨h1, h2, h3, ⟨t1, t2⟩, h5, leaf, rest, hc, hconf, hk⟩ => ⟨⟨h1, h2, t1, t2, hconf, leaf, rest, hc, hk⟩, h3, h5⟩,
    fun ⟨⟨h1, h2, t1, t2, hconf, leaf, rest, hc, hk⟩, h3, h5⟩ => ⟨h1, h2, h3, ⟨t1, t2⟩, h5, leaf, rest, hc, hconf, hk⟩⟩

theorem baseRules_of (ci : ChainInfo) (c : Content) (h : validateEnvelopeContent ci c = true) : BaseRules ci c :=
  ((validateEnvelopeContent_baseRules ci c).mp h).1

/-- the critical-header loop accepts only lists in which every entry is a required header still
    outstanding or names a present extended attribute, and ends with nothing outstanding -/
theorem critLoop_spec (ext : List String) (crit must rem : List String)
    (h : Jws.critLoop ext crit must = some rem) :
    (∀ c ∈ crit, c ∈ must ∨ c ∈ ext) ∧ (∀ m ∈ must, m ∈ rem ∨ m ∈ crit) := by
  induction crit generalizing must with
  | nil => cases h; exact ⟨nofun, fun m hm => .inl hm⟩
  | cons c cs ih =>
    simp only [Jws.critLoop] at h
    split at h
    next h1 =>
      obtain ⟨a, b⟩ := ih _ h
      refine ⟨fun x hx => ?_, fun m hm => ?_⟩
      · rcases List.mem_cons.mp hx with rfl | hx
        · exact .inl (by simpa using h1)
        · exact (a x hx).imp_left List.mem_of_mem_erase
      · by_cases hmc : m = c
        · exact .inr (hmc ▸ List.mem_cons_self)
        · exact (b m ((List.mem_erase_of_ne hmc).mpr hm)).imp_right (List.mem_cons_of_mem _)
    next =>
      split at h
      next h2 =>
        obtain ⟨a, b⟩ := ih _ h
        refine ⟨fun x hx => ?_, fun m hm => (b m hm).imp_right (List.mem_cons_of_mem _)⟩
        rcases List.mem_cons.mp hx with rfl | hx
        · exact .inr (by simpa using h2)
        · exact a x hx
      · cases h

theorem critOK_sound {h : Jws.Hdr} {ext : List Jws.Member} (hc : Jws.critOK h ext = true) :
    (∀ c ∈ h.crit, c ∈ Jws.mustCrit h ∨ c ∈ ext.map (·.key)) ∧ (∀ m ∈ Jws.mustCrit h, m ∈ h.crit) := by
  have hloop := (Bool.and_eq_true _ _ ▸ hc).2
  split at hloop
  next hl =>
    obtain ⟨a, b⟩ := critLoop_spec _ _ _ _ hl
    exact ⟨a, fun m hm => (b m hm).resolve_left List.not_mem_nil⟩
  · cases hloop

/-- **C07 (JWS, soundness)**: content returned by `Verify` or `Content` obeys every rule -/
theorem C07_sound_jws (e : Jws.Env) (ci : ChainInfo) (c : Content)
    (hv : wrapRead false ci (Jws.content e) = .val c) :
    BaseRules ci c ∧
    ∃ ms h, Jws.membersOf e.prot = some ms ∧ Jws.decodeHdr ms {} = some h ∧
      -- one of the two schemes, with the signing time taken from the header that belongs to it
      ((c.scheme = schemeX509 ∧ h.signingTime = some c.signingTime ∧ h.authSigningTime = none) ∨
       (c.scheme = schemeAuthority ∧ h.authSigningTime = some c.signingTime ∧ h.signingTime = none)) ∧
      -- required headers are marked critical
      Jws.kScheme ∈ h.crit ∧
      (c.scheme = schemeAuthority → Jws.kAuthSigningTime ∈ h.crit) ∧
      (c.expiry ≠ zeroT → Jws.kExpiry ∈ h.crit) ∧
      -- every critical label is actually present
      (∀ l ∈ h.crit, l ∈ [Jws.kScheme, Jws.kExpiry, Jws.kAuthSigningTime] ∨ l ∈ (Jws.extMembers ms).map (·.key)) := by
  obtain ⟨_, hinner, hval⟩ := (wrapRead_eq_val_iff ..).mp hv
  obtain ⟨ms, h, alg, r, rfl⟩ := (content_eq_val_iff e c).mp hinner
  have hb := baseRules_of ci _ hval
  obtain ⟨_, _, hs, hcr⟩ := (gates1_iff ..).mp r.gates1
  obtain ⟨cr1, cr2⟩ := critOK_sound hcr
  refine ⟨hb, ms, h, r.members, r.decodes, (schemeOK_signingTimeOf_iff h hb.signing_time_present).mp ⟨hs, rfl⟩,
    cr2 _ ((mem_mustCrit ..).mpr (.inl rfl)), fun ha => cr2 _ ((mem_mustCrit ..).mpr (.inr (.inr ⟨rfl, ha⟩))),
    fun hne => ?_, fun l hl => (cr1 l hl).imp_left fun hm => ?_⟩
  · cases he : h.expiry with
    | none => exact absurd (by simp [Jws.contentOf, he]) hne
    | some t => exact cr2 _ ((mem_mustCrit ..).mpr (.inr (.inl ⟨rfl, t, he, by simpa [Jws.contentOf, he] using hne⟩)))
  · rcases (mem_mustCrit ..).mp hm with rfl | ⟨rfl, _⟩ | ⟨rfl, _⟩ <;> simp

/-- the format-level reader alone already guarantees it -/
theorem crit_present_of_content (e : Jws.Env) (c : Content) (hinner : Jws.content e = .val c) :
    ∃ ms h, Jws.membersOf e.prot = some ms ∧ Jws.decodeHdr ms {} = some h ∧
      ∀ l ∈ h.crit, l ∈ ms.map (·.key) := by
  obtain ⟨ms, h, alg, r, rfl⟩ := (content_eq_val_iff e c).mp hinner
  refine ⟨ms, h, r.members, r.decodes, fun l hlc => ?_⟩
  obtain ⟨p1, p2, p3, _⟩ := decodeHdr_provenance ms {} h r.decodes
  obtain ⟨_, _, hs, hcr⟩ := (gates1_iff ..).mp r.gates1
  have hs := (schemeOK_iff h).mp hs
  rcases (critOK_sound hcr).1 l hlc with hm | hx
  · -- a required header: it is required because its field was set, and a field is set by a member
    rcases (mem_mustCrit ..).mp hm with rfl | ⟨rfl, t, he, _⟩ | ⟨rfl, ha⟩
    · exact p1 (by rcases hs with ⟨h1, _⟩ | ⟨h1, _⟩ <;> (rw [h1]; decide))
    · exact p2 (by rw [he]; nofun)
    · refine p3 fun hn => ?_
      rcases hs with ⟨h1, _⟩ | ⟨_, _, h3⟩
      · exact schemeAuthority_ne_x509 (ha.symm.trans h1)
      · rw [hn] at h3; cases h3
  · exact ((mem_extMembers_keys ms l).mp hx).2

/-- **C07 (JWS, every critical label names a header that is there)**: each entry of the signed
    `crit` array — whether it names an extended attribute or one of the specification's own
    headers — is the name of a member of the protected header -/
theorem C07_crit_present_jws (e : Jws.Env) (ci : ChainInfo) (c : Content)
    (hv : wrapRead false ci (Jws.content e) = .val c) :
    ∃ ms h, Jws.membersOf e.prot = some ms ∧ Jws.decodeHdr ms {} = some h ∧
      ∀ l ∈ h.crit, l ∈ ms.map (·.key) :=
  crit_present_of_content e c ((wrapRead_eq_val_iff ..).mp hv).2.1

/-- **C07 (verify implies content)**: a successful verification implies content extraction
    succeeds with an identical result — both formats -/
theorem C07_verify_implies_content_jws (e : Jws.Env) (ci : ChainInfo) (c : Content)
    (hv : wrapRead false ci (Jws.verify e) = .val c) : wrapRead false ci (Jws.content e) = .val c :=
  wrapRead_mono (fun h => ((verify_eq_val_iff e c).mp h).2.2) hv

theorem C07_verify_implies_content_cose (e : Cose.Env) (ci : ChainInfo) (c : Content)
    (hv : wrapRead false ci (Cose.verify e) = .val c) : wrapRead false ci (Cose.content e) = .val c :=
  wrapRead_mono (fun h => let ⟨_, _, _, _, hc⟩ := (cose_verify_eq_val_iff e c).mp h; hc) hv

/-- so the JWS rules hold for verified content as well -/
theorem C07_sound_jws_verify (e : Jws.Env) (ci : ChainInfo) (c : Content)
    (hv : wrapRead false ci (Jws.verify e) = .val c) : BaseRules ci c :=
  (C07_sound_jws e ci c (C07_verify_implies_content_jws e ci c hv)).1

/-- **C07 (COSE, soundness)** -/
theorem C07_sound_cose (e : Cose.Env) (ci : ChainInfo) (c : Content)
    (hv : wrapRead false ci (Cose.content e) = .val c) :
    BaseRules ci c ∧
    -- one of the two schemes, signing time from the header of that scheme, encoded as tag 1
    ((c.scheme = schemeX509 ∧ Cose.get e.prot Cose.lSigningTime = some (.time c.signingTime 1)) ∨
     (c.scheme = schemeAuthority ∧ Cose.get e.prot Cose.lAuthSigningTime = some (.time c.signingTime 1))) ∧
    Cose.get e.prot Cose.lScheme = some (.text c.scheme) ∧
    -- expiry, when the header is present, is a tag-1 value and is what is reported
    ((Cose.get e.prot Cose.lExpiry).isSome = true → Cose.get e.prot Cose.lExpiry = some (.time c.expiry 1)) ∧
    ((Cose.get e.prot Cose.lExpiry).isSome = false → c.expiry = zeroT) ∧
    -- required headers are marked critical
    Cose.lScheme ∈ Cose.critLabels e.prot ∧
    (c.scheme = schemeAuthority → Cose.lAuthSigningTime ∈ Cose.critLabels e.prot) ∧
    ((Cose.get e.prot Cose.lExpiry).isSome = true → Cose.lExpiry ∈ Cose.critLabels e.prot) := by
  obtain ⟨_, hinner, hval⟩ := (wrapRead_eq_val_iff ..).mp hv
  obtain ⟨cty, scheme, alg, st, ex, r, rfl⟩ := (cose_content_eq_val_iff e c).mp hinner
  obtain ⟨k1, k2, k3⟩ := critOK_iff.mp r.crit
  refine ⟨baseRules_of ci _ hval, signingTimeOf_eq_some.mp r.timeHdr, schemeOf_eq_some.mp r.schemeHdr,
    fun hp => ?_, fun hp => ?_, k1, k2, k3⟩
  · rcases expiryOf_eq_some.mp r.expiryHdr with ⟨hn, _⟩ | hx
    · rw [hn] at hp; cases hp
    · exact hx
  · rcases expiryOf_eq_some.mp r.expiryHdr with ⟨_, hz⟩ | hx
    · exact hz
    · rw [hx] at hp; cases hp

end NotationCore.Props
