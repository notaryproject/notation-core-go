import NotationCore.Model.Fetcher
/-!
  C18 — the CRL fetcher never serves stale data and never hides a failed download.
-/
namespace NotationCore.Props
open Fetcher

theorem fetchCRL_eq_some (w : World) (u : Url) (c : Crl) : (fetchCRL w u).1 = some c ↔ serverAns w u = .crl c := by
  unfold fetchCRL
  cases serverAns w u <;> simp

theorem fetchCRL_eq_none (w : World) (u : Url) : (fetchCRL w u).1 = none ↔ ∀ c, serverAns w u ≠ .crl c := by
  simp only [Option.eq_none_iff_forall_ne_some, ne_eq, fetchCRL_eq_some]

theorem firstAnswer_eq_findSome (w : World) (us : List Url) :
    (firstAnswer w us).1 = us.findSome? fun u => (fetchCRL w u).1 := by
  induction us with
  | nil => rfl
  | cons u us ih =>
    rw [List.findSome?_cons, ← ih, firstAnswer]
    rcases fetchCRL w u with ⟨_ | c, cs⟩ <;> rfl

theorem firstAnswer_some (w : World) (us : List Url) (d : Crl) (h : (firstAnswer w us).1 = some d) :
    ∃ pre v post, us = pre ++ v :: post ∧ serverAns w v = .crl d ∧ ∀ x ∈ pre, ∀ c, serverAns w x ≠ .crl c := by
  rw [firstAnswer_eq_findSome, List.findSome?_eq_some_iff] at h
  simpa only [fetchCRL_eq_some, fetchCRL_eq_none] using h

theorem firstAnswer_eq_none (w : World) (us : List Url) :
    (firstAnswer w us).1 = none ↔ ∀ x ∈ us, ∀ c, serverAns w x ≠ .crl c := by
  simp only [firstAnswer_eq_findSome, List.findSome?_eq_none_iff, fetchCRL_eq_none]

theorem firstAnswer_none (w : World) (us : List Url) (h : (firstAnswer w us).1 = none) :
    ∀ x ∈ us, ∀ c, serverAns w x ≠ .crl c :=
  (firstAnswer_eq_none w us).mp h

/-- **C18 (what a download is)**: a downloaded bundle has the server's current answer for the URL
    as its base; its delta is present exactly when the base advertises at least one freshest-CRL
    location, and is then the answer of the first advertised location that answers -/
theorem C18_download (w : World) (u : Url) (b : Bundle) (h : (download w u).1 = some b) :
    serverAns w u = .crl b.base ∧
    ∃ locs, advertised b.base = some locs ∧
      (locs = [] → b.delta = none) ∧
      (locs ≠ [] → ∃ d pre v post, b.delta = some d ∧ locs = pre ++ v :: post ∧ serverAns w v = .crl d ∧
        ∀ x ∈ pre, ∀ c, serverAns w x ≠ .crl c) := by
  unfold download at h
  split at h
  · cases h
  next base cs hf =>
    have hb := (fetchCRL_eq_some w u base).mp (by rw [hf])
    split at h
    · cases h
    next ha => cases h; exact ⟨hb, [], ha, fun _ => rfl, fun hne => absurd rfl hne⟩
    next l ls ha =>
      split at h <;> cases h
      next d cs' hfa =>
        obtain ⟨pre, v, post, e, hv, hpre⟩ := firstAnswer_some w (l :: ls) d (by rw [hfa])
        exact ⟨hb, l :: ls, ha, nofun, fun _ => ⟨d, pre, v, post, rfl, e, hv, hpre⟩⟩

/-- **C18 (delta present iff advertised)** -/
theorem C18_delta_iff (w : World) (u : Url) (b : Bundle) (h : (download w u).1 = some b) :
    b.delta.isSome = true ↔ ∃ l ls, advertised b.base = some (l :: ls) := by
  obtain ⟨_, locs, ha, h0, h1⟩ := C18_download w u b h
  cases locs with
  | nil => simp [h0 rfl, ha]
  | cons l ls =>
    obtain ⟨d, _, _, _, hd, _⟩ := h1 nofun
    simp [hd, ha]

/-- **C18 (an advertised delta that cannot be obtained or parsed is an error)**: never a base-only
    bundle -/
theorem C18_delta_fail_closed (w : World) (u : Url) (base : Crl) (hb : serverAns w u = .crl base)
    (hbad : advertised base = none ∨
            ∃ l ls, advertised base = some (l :: ls) ∧ ∀ x ∈ l :: ls, ∀ c, serverAns w x ≠ .crl c) :
    (download w u).1 = none := by
  unfold download
  rcases hbad with hn | ⟨l, ls, hl, hall⟩
  · simp only [fetchCRL, hb, hn]
  · simp only [fetchCRL, hb, hl]
    rw [show firstAnswer w (l :: ls) = (none, _) from Prod.ext ((firstAnswer_eq_none w _).mpr hall) rfl]

/-- a failing base download is an error too -/
theorem C18_base_fail (w : World) (u : Url) (h : ∀ c, serverAns w u ≠ .crl c) : (download w u).1 = none := by
  unfold download
  rw [show fetchCRL w u = (none, _) from Prod.ext ((fetchCRL_eq_none w u).mpr h) rfl]

/-- downloads go out over plain HTTP only: a URL that is not plain `http` is never contacted -/
theorem fetchCRL_contacts (w : World) (u : Url) : ∀ x ∈ (fetchCRL w u).2, x = u ∧ serverAns w u ≠ .notPlainHttp := by
  unfold fetchCRL
  cases serverAns w u <;> simp

theorem viaServer_ok (cfg : Config) (w w' : World) (u : Url) (n : Nat) (o : Out) (b : Bundle) (src : Source)
    (h : viaServer cfg w u n = (w', o)) (hr : o.result = .ok (b, src)) :
    src = .downloaded ∧ (download w u).1 = some b ∧ o.contacts = (download w u).2 ∧
    ((cfg.hasCache = false ∧ w' = w) ∨
     (cfg.hasCache = true ∧ w.setFault = false ∧ w' = cachePut w u b) ∨
     (cfg.hasCache = true ∧ w.setFault = true ∧ cfg.discardCacheError = true ∧ w' = w)) := by
  unfold viaServer at h
  rcases hd : download w u with ⟨_ | b', cs⟩ <;> rw [hd] at h
  · cases h; cases hr
  · -- the three successful rows of the table: no cache; stored; store failed and the failure is discarded
    cases hc : cfg.hasCache <;> rw [hc] at h
    · cases h; cases hr; exact ⟨rfl, rfl, rfl, .inl ⟨rfl, rfl⟩⟩
    · cases hs : w.setFault <;> rw [hs] at h
      · cases h; cases hr; exact ⟨rfl, rfl, rfl, .inr (.inl ⟨rfl, rfl, rfl⟩)⟩
      · cases hdc : cfg.discardCacheError <;> rw [hdc] at h <;> cases h <;> cases hr
        exact ⟨rfl, rfl, rfl, .inr (.inr ⟨rfl, rfl, rfl, rfl⟩)⟩

/-- **C18 (what a successful fetch returns)**: either a bundle held in the cache whose base and
    delta are both within their next-update time — and then no request went out and nothing
    changed — or a bundle freshly downloaded, which was then written to the cache (or the write
    failed and the caller opted to discard cache errors) -/
theorem C18_ok (cfg : Config) (w w' : World) (u : Url) (o : Out) (b : Bundle) (src : Source)
    (h : fetch cfg w u = (w', o)) (hr : o.result = .ok (b, src)) :
    (src = .cached ∧ cfg.hasCache = true ∧ cacheGet w u = .hit b ∧ bundleEffective w.now b = true ∧
      o.contacts = [] ∧ w' = w) ∨
    (src = .downloaded ∧ (download w u).1 = some b ∧ o.contacts = (download w u).2 ∧
      ((cfg.hasCache = false ∧ w' = w) ∨
       (cfg.hasCache = true ∧ w.setFault = false ∧ w' = cachePut w u b) ∨
       (cfg.hasCache = true ∧ w.setFault = true ∧ cfg.discardCacheError = true ∧ w' = w))) := by
  have via n (h : viaServer cfg w u n = (w', o)) := viaServer_ok cfg w w' u n o b src h hr
  obtain ⟨hasCache, discard⟩ := cfg
  unfold fetch at h
  cases hu : u == "" <;> rw [hu] at h
  · cases hasCache
    · exact .inr (via 0 h)
    · -- the cache answers: miss, fault, hit
      rcases hg : cacheGet w u with _ | _ | b' <;> rw [hg] at h
      · exact .inr (via 1 h)
      · cases discard
        · cases h; cases hr
        · exact .inr (via 1 h)
      · dsimp only at h
        cases he : bundleEffective w.now b' <;> rw [he] at h
        · exact .inr (via 1 h)
        · cases h; cases hr; exact .inl ⟨rfl, rfl, rfl, he, rfl, rfl⟩
  · cases h; cases hr

theorem effective_iff (now : Time) (c : Crl) : effective now c = true ↔ (c.nextUpdate ≠ zeroT ∧ now ≤ c.nextUpdate) := by
  unfold effective isZeroT
  simp only [Bool.and_eq_true, Bool.not_eq_eq_eq_not, Bool.not_true, beq_eq_false_iff_ne, ne_eq,
    decide_eq_false_iff_not, Int.not_lt, gt_iff_lt]

/-- **C18 (never stale)**: a bundle served from the cache has a next-update time on both its base
    and its delta, and neither is behind the clock; an expired, half-expired or next-update-less
    cached bundle is therefore never returned -/
theorem C18_never_stale (cfg : Config) (w w' : World) (u : Url) (o : Out) (b : Bundle)
    (h : fetch cfg w u = (w', o)) (hr : o.result = .ok (b, .cached)) :
    (b.base.nextUpdate ≠ zeroT ∧ w.now ≤ b.base.nextUpdate) ∧
    ∀ d, b.delta = some d → (d.nextUpdate ≠ zeroT ∧ w.now ≤ d.nextUpdate) := by
  rcases C18_ok cfg w w' u o b .cached h hr with ⟨_, _, _, he, _, _⟩ | ⟨hs, _⟩
  · unfold bundleEffective at he
    simp only [Bool.and_eq_true] at he
    refine ⟨(effective_iff _ _).mp he.1, ?_⟩
    intro d hd
    rw [hd] at he
    exact (effective_iff _ _).mp he.2
  · cases hs

/-- … and conversely a stale entry forces a download: whatever is returned then is the server's -/
theorem C18_stale_entry_downloads (cfg : Config) (w w' : World) (u : Url) (o : Out) (b b' : Bundle) (src : Source)
    (h : fetch cfg w u = (w', o)) (hg : cacheGet w u = .hit b') (hst : bundleEffective w.now b' = false)
    (hr : o.result = .ok (b, src)) : src = .downloaded ∧ (download w u).1 = some b := by
  rcases C18_ok cfg w w' u o b src h hr with ⟨_, _, hg', he, _, _⟩ | ⟨hs, hd, _⟩
  · rw [hg] at hg'
    simp only [GetAns.hit.injEq] at hg'
    rw [hg', he] at hst; cases hst
  · exact ⟨hs, hd⟩

/-- **C18 (cache read failure)**: an error unless the caller opted to discard it — and then
    nothing is downloaded -/
theorem C18_get_fault (cfg : Config) (w : World) (u : Url) (hu : u ≠ "") (hc : cfg.hasCache = true)
    (hf : w.getFault = true) (hd : cfg.discardCacheError = false) :
    fetch cfg w u = (w, { result := .error .cacheGet, contacts := [], cacheGets := 1, cacheSets := 0 }) := by
  simp [fetch, cacheGet, hu, hc, hf, hd]

/-- **C18 (cache write failure)**: an error unless the caller opted to discard it -/
theorem C18_set_fault (cfg : Config) (w : World) (u : Url) (b : Bundle) (n : Nat) (hc : cfg.hasCache = true)
    (hf : w.setFault = true) (hd : cfg.discardCacheError = false) (hdl : (download w u).1 = some b) :
    (viaServer cfg w u n).2.result = .error .cacheSet ∧ (viaServer cfg w u n).1 = w := by
  unfold viaServer
  rw [show download w u = (some b, _) from Prod.ext hdl rfl]
  simp [hc, hf, hd]

/-- **C18 (discarding cache errors)**: with the option on, a failing cache behaves like no cache
    at all — same result, same downloads -/
theorem C18_discard (cfg : Config) (w : World) (u : Url) (hc : cfg.hasCache = true) (hd : cfg.discardCacheError = true)
    (hg : w.getFault = true) (hs : w.setFault = true) :
    (fetch cfg w u).2.result = (fetch { cfg with hasCache := false } w u).2.result ∧
    (fetch cfg w u).2.contacts = (fetch { cfg with hasCache := false } w u).2.contacts ∧
    (fetch cfg w u).1 = w := by
  unfold fetch
  by_cases hu : (u == "") = true
  · simp [hu]
  · -- both sides go to the server; the two differ in the number of cache reads only
    simp only [hu, cacheGet, hc, hg, hd, if_true, Bool.not_true, Bool.not_false, Bool.false_eq_true, if_false]
    unfold viaServer
    rcases download w u with ⟨_ | b, cs⟩
    · exact ⟨rfl, rfl, rfl⟩
    · simp [hc, hs, hd]

/-- **C18 (a cache miss is never an error)**: after a miss the outcome is that of the download -/
theorem C18_miss (cfg : Config) (w : World) (u : Url) (hu : u ≠ "") (hc : cfg.hasCache = true)
    (hm : cacheGet w u = .miss) :
    fetch cfg w u = viaServer cfg w u 1 ∧
    (∀ b, (download w u).1 = some b → w.setFault = false →
      (fetch cfg w u).2.result = .ok (b, .downloaded) ∧ (fetch cfg w u).1 = cachePut w u b) := by
  have h1 : fetch cfg w u = viaServer cfg w u 1 := by
    simp [fetch, hu, hc, hm]
  refine ⟨h1, ?_⟩
  intro b hb hs
  rw [h1]
  unfold viaServer
  rw [show download w u = (some b, _) from Prod.ext hb rfl]
  simp [hc, hs]

theorem lookup_cachePut (w : World) (u : Url) (b : Bundle) : (cachePut w u b).cache.lookup u = some b := by
  unfold cachePut
  simp [List.lookup]

/-- **C18 (the cache is used)**: right after a fetch that downloaded and stored a bundle, fetching
    again returns that bundle from the cache without any request — provided it is effective -/
theorem C18_refetch (cfg : Config) (w : World) (u : Url) (b : Bundle) (hu : u ≠ "") (hc : cfg.hasCache = true)
    (hg : w.getFault = false) (he : bundleEffective w.now b = true) :
    fetch cfg (cachePut w u b) u =
      (cachePut w u b, { result := .ok (b, .cached), contacts := [], cacheGets := 1, cacheSets := 0 }) := by
  have hget : cacheGet (cachePut w u b) u = .hit b := by
    unfold cacheGet
    rw [show (cachePut w u b).getFault = false from hg, lookup_cachePut]
    rfl
  have hnow : (cachePut w u b).now = w.now := rfl
  simp [fetch, hu, hc, hget, hnow, he]

theorem step_some (cfg : Config) (w w' : World) (op : Op) (o : Out) (h : step cfg w op = (w', some o)) :
    ∃ u, o = (fetch cfg w u).2 := by
  cases op with
  | fetch u => simp only [step, Prod.mk.injEq, Option.some.injEq] at h; exact ⟨u, h.2.symm⟩
  | _ => cases h

/-- every output of every history is the output of one `fetch` in the world it ran in -/
theorem run_mem (cfg : Config) (ops : List Op) (w : World) (wi : World) (o : Out)
    (h : (wi, o) ∈ run cfg w ops) : ∃ u, o = (fetch cfg wi u).2 := by
  induction ops generalizing w with
  | nil => cases h
  | cons op ops ih =>
    unfold run at h
    split at h
    next w' o' hs =>
      rcases List.mem_cons.mp h with he | ht
      · cases he; exact step_some cfg _ w' op o hs
      · exact ih _ ht
    next => exact ih _ h

/-- **C18 (over every history)**: whatever was published, planted, evicted, faulted or how much
    time passed before, a bundle a fetch returns is either a cache entry effective at that moment
    or the server's answer of that moment (with its delta iff advertised) -/
theorem C18_history (cfg : Config) (ops : List Op) (w wi : World) (o : Out) (b : Bundle) (src : Source)
    (h : (wi, o) ∈ run cfg w ops) (hr : o.result = .ok (b, src)) :
    ∃ u, (src = .cached ∧ cacheGet wi u = .hit b ∧ bundleEffective wi.now b = true ∧ o.contacts = []) ∨
         (src = .downloaded ∧ (download wi u).1 = some b ∧ serverAns wi u = .crl b.base ∧
          (b.delta.isSome = true ↔ ∃ l ls, advertised b.base = some (l :: ls))) := by
  obtain ⟨u, ho⟩ := run_mem cfg ops w wi o h
  refine ⟨u, ?_⟩
  have hf : fetch cfg wi u = ((fetch cfg wi u).1, o) := by rw [ho]
  rcases C18_ok cfg wi _ u o b src hf hr with ⟨hs, _, hg, he, hcs, _⟩ | ⟨hs, hd, _, _⟩
  · exact Or.inl ⟨hs, hg, he, hcs⟩
  · exact Or.inr ⟨hs, hd, (C18_download wi u b hd).1, C18_delta_iff wi u b hd⟩

def exCrl (id : Nat) (nu : Time) (f : FreshExt) : Crl := { id, nextUpdate := nu, fresh := f }
def exWorld : World :=
  { server := [("http://a/base.crl", .crl (exCrl 1 100 (.points [.noName, .fullName [.uri "https://a/d1.crl", .uri "http://a/d2.crl"]]))),
               ("https://a/d1.crl", .notPlainHttp), ("http://a/d2.crl", .crl (exCrl 2 100 .absent))],
    cache := [("http://a/base.crl", { base := exCrl 0 5 .absent, delta := none })], getFault := false, setFault := false, now := 10 }

-- a stale cache entry, a delta behind a non-http first location: downloaded, delta from the second location
example : (fetch ⟨true, false⟩ exWorld "http://a/base.crl").2.result =
    .ok ({ base := exCrl 1 100 (.points [.noName, .fullName [.uri "https://a/d1.crl", .uri "http://a/d2.crl"]]),
           delta := some (exCrl 2 100 .absent) }, .downloaded) := by rfl
example : (fetch ⟨true, false⟩ exWorld "http://a/base.crl").2.contacts = ["http://a/base.crl", "http://a/d2.crl"] := by decide
-- fetched again: from the cache
example : (fetch ⟨true, false⟩ (fetch ⟨true, false⟩ exWorld "http://a/base.crl").1 "http://a/base.crl").2.contacts = [] := by decide
-- a relative name makes the extension unparsable: error, not a base-only bundle
example : (fetch ⟨false, false⟩ { exWorld with server := [("u", .crl (exCrl 1 100 (.points [.fullName [.uri "x"], .relativeName])))] } "u").2.result
    = .error .download := by rfl

end NotationCore.Props
