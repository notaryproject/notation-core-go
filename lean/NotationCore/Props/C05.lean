import NotationCore.Props.C10
/-!
  C05 — CRL yields OK only if every distribution point gave an authentic, current CRL.
-/
namespace NotationCore.Props
open Crl

/-- a CRL is authentic and current and free of unknown critical list extensions -/
def CrlGood (now : Time) (l : CrlRec) : Prop :=
  l.sigOK = true ∧ l.nextUpdate ≠ zeroT ∧ ¬ now > l.nextUpdate ∧ l.critUnknownExt = false

/-- bundle: good base; a delta, if present, equally good, with a larger CRL number than the base
    and a delta indicator not above the base's number -/
def BundleGood (now : Time) (b : Bundle) : Prop :=
  CrlGood now b.base ∧
  ∀ d, b.delta = some d →
    CrlGood now d ∧ ∃ dn bn m, d.number = some dn ∧ b.base.number = some bn ∧ bn < dn ∧
      d.indicator = some (some m) ∧ m ≤ bn

def entriesOf (b : Bundle) : List Entry :=
  b.base.entries ++ (match b.delta with | some d => d.entries | none => [])

/-- the distribution point delivered an authentic, current bundle honouring the certificate's
    freshest-CRL pointer, and its entries clear the certificate (C10's notion) -/
def DPGood (env : Env) (c : RCert) (st : Time) (u : Url) : Prop :=
  ∃ b, env.fetch u = .bundle b ∧ BundleGood env.now b ∧ (c.hasFreshest = true → b.delta.isSome = true) ∧
    checkRevocation c.serial st (entriesOf b) = .ok

/-- the distribution point delivered an authentic, current bundle that lists the certificate -/
def DPRevokes (env : Env) (c : RCert) (st : Time) (u : Url) : Prop :=
  ∃ b, env.fetch u = .bundle b ∧ BundleGood env.now b ∧ (c.hasFreshest = true → b.delta.isSome = true) ∧
    checkRevocation c.serial st (entriesOf b) = .revoked

theorem validateCRL_iff (now : Time) (l : CrlRec) : validateCRL now l = true ↔ CrlGood now l := by
  unfold validateCRL CrlGood isZeroT
  simp only [Bool.and_eq_true, Bool.not_eq_eq_eq_not, Bool.not_true, beq_eq_false_iff_ne, ne_eq,
    decide_eq_false_iff_not, and_assoc]

theorem validate_iff_bundleGood (now : Time) (b : Bundle) : validate now b = true ↔ BundleGood now b := by
  unfold validate BundleGood
  rw [Bool.and_eq_true, validateCRL_iff]
  cases b.delta with
  | none => simp
  | some d =>
    simp only [Option.some.injEq, forall_eq', Bool.and_eq_true, validateCRL_iff]
    -- the delta rules: both numbers present, indicator a proper integer
    rcases d.number with _ | dn <;> rcases b.base.number with _ | bn <;> try simp
    rcases d.indicator with _ | _ | m <;> simp

theorem checkDP_iff (env : Env) (c : RCert) (st : Time) (u : Url) :
    (checkDP env c st u = .ok ↔ DPGood env c st u) ∧ (checkDP env c st u = .revoked ↔ DPRevokes env c st u) := by
  have hfr : ∀ (f : Bool) (d : Option CrlRec), (f = true → d.isSome = true) ↔ (f && d.isNone) = false := by
    intro f d; cases f <;> cases d <;> simp
  unfold checkDP DPGood DPRevokes
  cases env.fetch u with
  | fail => simp
  | bundle b =>
    simp only [FetchOut.bundle.injEq, exists_eq_left', ← validate_iff_bundleGood, entriesOf, hfr]
    cases c.hasFreshest && b.delta.isNone
    · cases validate env.now b
      · simp
      · cases checkRevocation c.serial st _ <;> simp
    · simp

theorem checkDP_ok_iff (env : Env) (c : RCert) (st : Time) (u : Url) :
    checkDP env c st u = .ok ↔ DPGood env c st u := (checkDP_iff env c st u).1

theorem checkDP_revoked_iff (env : Env) (c : RCert) (st : Time) (u : Url) :
    checkDP env c st u = .revoked ↔ DPRevokes env c st u := (checkDP_iff env c st u).2

theorem loop_eq (env : Env) (c : RCert) (st : Time) (us : List Url) (acc : List ServerResult) :
    loop env c st us acc =
      match us.find? (fun u => checkDP env c st u != .ok) with
      | some u => if checkDP env c st u = .revoked then single .revoked u "" else single .unknown u "err"
      | none => loop env c st [] ((us.map fun u => { result := .ok, server := u, method := .crl, err := "" }).reverse ++ acc) := by
  rw [Proofs.firstStop_loop (L := loop env c st) (stop := fun u => checkDP env c st u != .ok)
    (out := fun u => if checkDP env c st u = .revoked then single .revoked u "" else single .unknown u "err")
    (entry := fun u => { result := .ok, server := u, method := .crl, err := "" })
    (fun u _ _ => by rw [loop]; cases checkDP env c st u <;> rfl) us acc]
  cases us.find? _ <;> rfl

theorem loop_cases {env : Env} {c : RCert} {st : Time} {us : List Url} {acc : List ServerResult} {r : CertResult}
    (hr : loop env c st us acc = r) :
    (r = { result := .ok, method := .crl,
           servers := acc.reverse ++ us.map fun u => { result := .ok, server := u, method := .crl, err := "" } } ∧
      ∀ u ∈ us, DPGood env c st u) ∨
    ∃ pre u post, us = pre ++ u :: post ∧ (∀ v ∈ pre, DPGood env c st v) ∧ ¬ DPGood env c st u ∧
      ((r = single .revoked u "" ∧ DPRevokes env c st u) ∨ (r = single .unknown u "err" ∧ ¬ DPRevokes env c st u)) := by
  subst hr
  rw [loop_eq]
  simp only [← checkDP_ok_iff, ← checkDP_revoked_iff]
  cases hf : us.find? (fun u => checkDP env c st u != .ok) with
  | none => exact .inl ⟨by simp [loop], by simpa using hf⟩
  | some u =>
    obtain ⟨hu, pre, post, hus, hpre⟩ := List.find?_eq_some_iff_append.mp hf
    refine .inr ⟨pre, u, post, hus, by simpa using hpre, by simpa using hu, ?_⟩
    by_cases hr : checkDP env c st u = .revoked <;> simp [hr]

theorem loop_spec (env : Env) (c : RCert) (st : Time) (us : List Url) (acc : List ServerResult) :
    let r := loop env c st us acc
    (r.result = .ok ∧ (∀ u ∈ us, DPGood env c st u) ∧
        r.servers = acc.reverse ++ us.map (fun u => { result := .ok, server := u, method := .crl, err := "" })) ∨
    (∃ pre u post, us = pre ++ u :: post ∧ (∀ v ∈ pre, DPGood env c st v) ∧
        ((DPRevokes env c st u ∧ r = single .revoked u "") ∨
         (¬ DPGood env c st u ∧ ¬ DPRevokes env c st u ∧ r = single .unknown u "err"))) := by
  rcases loop_cases (rfl : loop env c st us acc = _) with
    ⟨h, hall⟩ | ⟨pre, u, post, hus, hpre, hng, ⟨h, hr⟩ | ⟨h, hnr⟩⟩ <;> rw [h]
  · exact .inl ⟨rfl, hall, rfl⟩
  · exact .inr ⟨pre, u, post, hus, hpre, .inl ⟨hr, rfl⟩⟩
  · exact .inr ⟨pre, u, post, hus, hpre, .inr ⟨hng, hnr, rfl⟩⟩

theorem crl_loop (env : Env) (c : RCert) (st : Time) (hne : c.crlDPs ≠ []) :
    loop env c st c.crlDPs [] = certCheckStatus env c st := by
  rw [certCheckStatus, if_neg (by simpa using hne)]

/-- **C05 (soundness and completeness of OK)**: OK exactly when the certificate names at least
    one distribution point and every one of them delivered a good bundle clearing the certificate -/
theorem C05_ok_iff (env : Env) (c : RCert) (st : Time) :
    (certCheckStatus env c st).result = .ok ↔ (c.crlDPs ≠ [] ∧ ∀ u ∈ c.crlDPs, DPGood env c st u) := by
  by_cases hne : c.crlDPs = []
  · simp [certCheckStatus, hne, single]
  rcases loop_cases (crl_loop env c st hne) with ⟨h, hall⟩ | ⟨_, u, _, hus, _, hng, ⟨h, _⟩ | ⟨h, _⟩⟩ <;> rw [h]
  · exact iff_of_true rfl ⟨hne, hall⟩
  · exact iff_of_false nofun fun g => hng (g.2 u (hus ▸ List.mem_append_cons_self))
  · exact iff_of_false nofun fun g => hng (g.2 u (hus ▸ List.mem_append_cons_self))

/-- **C05 (fail closed)**: if any distribution point fails to deliver a good clearing bundle the
    result is Unknown, or Revoked — and Revoked only on an authentic current bundle that lists
    the certificate, all earlier points having been good; never OK -/
theorem C05_fail_closed (env : Env) (c : RCert) (st : Time)
    (hne : c.crlDPs ≠ []) (hbad : ∃ u ∈ c.crlDPs, ¬ DPGood env c st u) :
    (certCheckStatus env c st).result = .unknown ∨
    ((certCheckStatus env c st).result = .revoked ∧
      ∃ pre u post, c.crlDPs = pre ++ u :: post ∧ (∀ v ∈ pre, DPGood env c st v) ∧ DPRevokes env c st u) := by
  obtain ⟨w, hw, hbad⟩ := hbad
  rcases loop_cases (crl_loop env c st hne) with ⟨h, hall⟩ | ⟨pre, u, post, hus, hpre, _, ⟨h, hr⟩ | ⟨h, _⟩⟩ <;> rw [h]
  · exact absurd (hall w hw) hbad
  · exact .inr ⟨rfl, pre, u, post, hus, hpre, hr⟩
  · exact .inl rfl

/-- **C05 (shape of the result)**: OK carries one OK entry per distribution point in order;
    Revoked / Unknown carry exactly one entry naming the URL that decided -/
theorem C05_shape (env : Env) (c : RCert) (st : Time) (hne : c.crlDPs ≠ []) :
    let r := certCheckStatus env c st
    r.method = .crl ∧
    ((r.result = .ok ∧ r.servers = c.crlDPs.map (fun u => { result := .ok, server := u, method := .crl, err := "" })) ∨
     ((r.result = .revoked ∨ r.result = .unknown) ∧ ∃ u ∈ c.crlDPs, r.servers.length = 1 ∧
        r.servers.map (·.server) = [u] ∧ r.servers.map (·.result) = [r.result])) := by
  rcases loop_cases (crl_loop env c st hne) with ⟨h, _⟩ | ⟨_, u, _, hus, _, _, ⟨h, _⟩ | ⟨h, _⟩⟩ <;> rw [h]
  · exact ⟨rfl, .inl ⟨rfl, rfl⟩⟩
  · exact ⟨rfl, .inr ⟨.inl rfl, u, hus ▸ List.mem_append_cons_self, rfl, rfl, rfl⟩⟩
  · exact ⟨rfl, .inr ⟨.inr rfl, u, hus ▸ List.mem_append_cons_self, rfl, rfl, rfl⟩⟩

/-! ### non-vacuity -/
private def goodCrl : CrlRec := { sigOK := true, nextUpdate := 500, number := some 5, critUnknownExt := false, indicator := none, entries := [] }
private def goodDelta : CrlRec := { goodCrl with number := some 6, indicator := some (some 5) }
private def env1 : Env := { fetch := fun u => if u = "http://a" then .bundle ⟨goodCrl, some goodDelta⟩ else if u = "http://b" then .bundle ⟨goodCrl, none⟩ else .fail, now := 100 }
example : (certCheckStatus env1 ⟨1, ["http://a", "http://b"], false⟩ 0).result = .ok := by decide
example : (certCheckStatus env1 ⟨1, ["http://a", "http://b"], true⟩ 0).result = .unknown := by decide   -- b has no delta
example : (certCheckStatus env1 ⟨1, ["http://a", "http://c"], false⟩ 0).result = .unknown := by decide  -- c fails
-- delta number equal to the base number is rejected; indicator above the base number is rejected
example : validate 100 ⟨goodCrl, some { goodDelta with number := some 5 }⟩ = false := by decide
example : validate 100 ⟨goodCrl, some { goodDelta with indicator := some (some 6) }⟩ = false := by decide
example : validate 100 ⟨goodCrl, some { goodDelta with indicator := none }⟩ = false := by decide
example : validate 100 ⟨{ goodCrl with number := none }, some goodDelta⟩ = false := by decide   -- F6: was a nil dereference
example : validate 500 ⟨goodCrl, none⟩ = true := by decide                                       -- now = nextUpdate is still current

end NotationCore.Props
