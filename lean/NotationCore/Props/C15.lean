import NotationCore.Model.Timestamp
import NotationCore.Props.C14
import NotationCore.Props.C16
/-!
  C15 — timestamped signing needs a verified, matching, unrevoked TSA token.
-/
namespace NotationCore.Props
open Base Sign Timestamp

/-- **C15 (revocation gate)**: the TSA chain passes iff there is exactly one result per
    certificate and every one is OK or NonRevokable (any Revoked or Unknown aborts) — for every
    result vector of every length -/
theorem C15_gate (rs : List Result) (n : Nat) :
    revocationResult rs n = true ↔ (rs ≠ [] ∧ rs.length = n ∧ ∀ r ∈ rs, r = .ok ∨ r = .nonRevokable) := by
  unfold revocationResult
  simp only [Bool.and_eq_true, Bool.not_eq_eq_eq_not, Bool.not_true, List.isEmpty_eq_false_iff, beq_iff_eq,
    List.all_eq_true, List.mem_reverse, Bool.or_eq_true, and_assoc]

/-- **C15 (success)**: a token is returned only if the authority answered with a granted,
    parseable token whose CMS signature chains to the caller's roots, whose TSA chain conforms to
    the timestamping specification (C14), and — if a validator is supplied — has every certificate
    OK or NonRevokable; and the token returned is the authority's -/
theorem C15_success (e : Env) (tok : String) (h : timestamp e = some tok) :
    e.requestOK = true ∧ e.timestamperOK = true ∧ e.tokenOK = true ∧ tok = e.token ∧
    ∃ ci, e.tsaChain = some ci ∧ Spec.Conforms .timestamping ci.sigF ci.sigSelfF ci.certs none ∧
      (e.validator = .notConfigured ∨
       ∃ rs, e.validator = .results rs ∧ rs.length = ci.certs.length ∧ ∀ r ∈ rs, r = .ok ∨ r = .nonRevokable) := by
  unfold timestamp at h
  simp only [Proofs.guard_passed, ne_eq, reduceCtorEq, not_false_eq_true, Bool.not_eq_false'] at h
  obtain ⟨h1, h2, h3, h⟩ := h
  split at h
  · cases h
  rename_i ci hc
  simp only [Proofs.guard_passed, ne_eq, reduceCtorEq, not_false_eq_true, Bool.not_eq_false', accepted_timestamping] at h
  obtain ⟨hconf, h⟩ := h
  split at h
  · cases h; exact ⟨h1, h2, h3, rfl, ci, hc, hconf, Or.inl ‹_›⟩
  · cases h
  · rename_i rs hv
    split at h
    · rename_i h5
      cases h
      obtain ⟨_, g2, g3⟩ := (C15_gate rs _).mp h5
      exact ⟨h1, h2, h3, rfl, ci, hc, hconf, Or.inr ⟨rs, hv, g2, g3⟩⟩
    · cases h

/-- under notary.x509 with a timestamper configured, the timestamping step of `prepare` is the pipeline -/
theorem tsStep_outcome (r : Req) (e : Env) (hts : r.ts = outcome true e) (hscheme : r.scheme = schemeX509) :
    tsStep r = timestamp e := by
  simp only [tsStep, hscheme, beq_self_eq_true, if_true, hts, outcome, Bool.not_true, Bool.false_eq_true, if_false]
  cases timestamp e <;> rfl

theorem tsStep_idle (r : Req) (h : r.scheme ≠ schemeX509 ∨ r.ts = .notConfigured) : tsStep r = some "" := by
  unfold tsStep
  rcases h with h | h
  · simp [h]
  · rw [h]; split <;> rfl

/-- **C15 (sign, token embedded)**: a successful signing under notary.x509 with a timestamper
    configured carries exactly the token the pipeline returned -/
theorem C15_sign (fmt : Fmt) (r : Req) (e : Env) (c : Content)
    (hts : r.ts = outcome true e) (hscheme : r.scheme = schemeX509)
    (h : sign fmt r = .ok c) : ∃ tok, timestamp e = some tok ∧ c.tst = tok := by
  obtain ⟨p, _, _, _, _, a15, _, _, rfl⟩ := sign_ok_inv h
  exact ⟨p.tst, tsStep_outcome r e hts hscheme ▸ a15, rfl⟩

/-- **C15 (failure)**: if the pipeline fails, signing does not succeed. (In the model the error is then raised by `prepare`,
    before the format-level envelope is touched — stage `early` — and is a timestamp error when the request is acceptable
    up to that point; neither is part of this statement.) -/
theorem C15_failure (fmt : Fmt) (r : Req) (e : Env)
    (hts : r.ts = outcome true e) (hscheme : r.scheme = schemeX509) (hfail : timestamp e = none) :
    ∀ c, sign fmt r ≠ .ok c := by
  intro c h
  obtain ⟨tok, ht, _⟩ := C15_sign fmt r e c hts hscheme h
  rw [hfail] at ht; cases ht

/-- **C15 (authority never contacted)**: under the signing-authority scheme, or without a
    timestamper, the result of signing does not depend on anything the authority could do, and no
    token is embedded -/
theorem C15_not_contacted (fmt : Fmt) (r : Req) (ts' : TsOutcome)
    (h : r.scheme ≠ schemeX509 ∨ r.ts = .notConfigured) :
    (r.scheme ≠ schemeX509 → sign fmt { r with ts := ts' } = sign fmt r) ∧
    (∀ c, sign fmt r = .ok c → c.tst = "") := by
  constructor
  · intro hs
    -- `prepare` looks at `ts` only through `tsStep`, and `finish` not at all
    have hprep : prepare fmt { r with ts := ts' } = prepare fmt r := by
      unfold prepare
      simp only [tsStep_idle r (.inl hs), tsStep_idle { r with ts := ts' } (.inl hs)]
    unfold sign
    rw [hprep]
    cases prepare fmt r <;> rfl
  · intro c hc
    obtain ⟨p, _, _, _, _, a15, _, _, rfl⟩ := sign_ok_inv hc
    rw [tsStep_idle r h] at a15
    exact (Option.some.inj a15).symm

/-- **C15 (authority never contacted, count)**: under the signing-authority scheme, or without a
    timestamper, neither the authority nor the revocation validator is invoked -/
theorem C15_contacted_zero (fmt : Fmt) (r : Req) (configured : Bool) (e : Env)
    (h : r.scheme ≠ schemeX509 ∨ configured = false) :
    contacted fmt r configured e = 0 ∧ validatorCalls fmt r configured e = 0 := by
  have h0 : contacted fmt r configured e = 0 := by
    unfold contacted
    rcases h with h | h <;> simp [h]
  exact ⟨h0, by simp [validatorCalls, h0]⟩

/-- the validator is consulted only about a token that already verified and whose chain conforms -/
theorem C15_validator_after_verification (fmt : Fmt) (r : Req) (configured : Bool) (e : Env)
    (h : validatorCalls fmt r configured e = 1) :
    e.timestamperOK = true ∧ e.tokenOK = true ∧
    ∃ ci, e.tsaChain = some ci ∧ Spec.Conforms .timestamping ci.sigF ci.sigSelfF ci.certs none := by
  have hr : reachesValidator e = true := by
    by_cases hr : reachesValidator e = true
    · exact hr
    · simp [validatorCalls, hr] at h
  simp only [reachesValidator, Bool.and_eq_true] at hr
  obtain ⟨⟨⟨_, h2⟩, h3⟩, h4⟩ := hr
  split at h4
  · cases h4
  · rename_i ci hc
    exact ⟨h2, h3, ci, hc, (accepted_timestamping _ _ _).mp h4⟩

/-! ### non-vacuity -/
example : revocationResult [.ok, .nonRevokable, .ok] 3 = true := by decide
example : revocationResult [.ok, .unknown, .ok] 3 = false := by decide
example : revocationResult [.ok, .revoked] 2 = false := by decide
example : revocationResult [.ok, .ok] 3 = false := by decide
example : revocationResult [] 0 = false := by decide

end NotationCore.Props
