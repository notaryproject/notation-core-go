import NotationCore.Props.C16
/-!
  C02, the signing side: "a signer is accepted for signing only with …, and the algorithm declared in the signed header must
  be the one dictated by the leaf certificate's key".
-/
namespace NotationCore.Props
open Base Algorithm Sign Proofs.Envelope

/-- **C02 (signing)**: whenever signing succeeds, the signer's chain has a leaf whose key is one of the six approved keys, the
    algorithm of the key specification the signer announces is the algorithm of that key's table row, and that is the algorithm
    the produced content declares. (Whatever the signer announces and whatever it can compute: `ks` and the signature are the
    signer's word; the leaf key is the certificate's.) -/
theorem C02_sign (fmt : Fmt) (r : Req) (c : Content) (h : sign fmt r = .ok c) :
    ∃ s ks ci leaf rest row, r.signer = some s ∧ s.keySpec = some ks ∧ s.chain = some ci ∧ ci.certs = leaf :: rest ∧
      row ∈ table ∧ row.1 = leaf.key ∧ signatureAlgorithm ks = row.2.1 ∧ c.alg = row.2.1 := by
  obtain ⟨p, _, a3, a4, hch, _, _, b2, rfl⟩ := sign_ok_inv h
  obtain ⟨leaf, rest, hcerts, _, hkey⟩ := (validateCertificateChain_iff ..).mp b2
  obtain ⟨row, hrow, hr1, hr2⟩ := keyAlg_table leaf.key _ hkey
  exact ⟨p.s, p.ks, p.ci, leaf, rest, row, a3, a4, hch, hcerts, hrow, hr1, hr2.symm, hr2.symm⟩

/-- the contrapositive the property states: a signer whose announced algorithm is not the one its leaf key dictates — any other
    key type or size, any mismatch — is refused, whatever else the request says -/
theorem C02_sign_mismatch_refused (fmt : Fmt) (r : Req) (s : Signer) (ks : KeySpec) (ci : ChainInfo) (leaf : Chain.Cert) (rest : List Chain.Cert)
    (hs : r.signer = some s) (hk : s.keySpec = some ks) (hc : s.chain = some ci) (hl : ci.certs = leaf :: rest)
    (hm : ∀ row ∈ table, row.1 = leaf.key → signatureAlgorithm ks ≠ row.2.1) :
    ∀ c, sign fmt r ≠ .ok c := by
  intro c h
  obtain ⟨s', ks', ci', leaf', rest', row, h1, h2, h3, h4, h5, h6, h7, _⟩ := C02_sign fmt r c h
  rw [hs] at h1; cases h1
  rw [hk] at h2; cases h2
  rw [hc] at h3; cases h3
  rw [hl] at h4; cases h4
  exact hm row h5 h6 h7

/-! ### non-vacuity: a request that signs, and the same request with the signer announcing another approved key -/

private def yLeaf : Chain.Cert :=
  { id := 0, subject := 10, issuer := 11, v3 := true, bcValid := false, isCA := false,
    maxPathLen := 0, maxPathLenZero := false, kuExt := some true, ku := 1, ekuExt := some false, eku := [3],
    unknownEku := 0, key := .ec 256, notBefore := 0, notAfter := 5000000000 }
private def yRoot : Chain.Cert :=
  { id := 1, subject := 11, issuer := 11, v3 := true, bcValid := true, isCA := true,
    maxPathLen := -1, maxPathLenZero := false, kuExt := some true, ku := 96, ekuExt := none, eku := [],
    unknownEku := 0, key := .ec 384, notBefore := 0, notAfter := 5000000000 }
private def yReq (ks : KeySpec) : Req :=
  { payload := "{}", payloadLen := 2, jwsObject := true, cty := "application/x", ctyOK := true,
    signingTime := 2500000000, expiry := zeroT, timesEncodable := true, scheme := schemeX509,
    signer := some { isLocal := false, keySpec := some ks, signs := true, sigLen := 64,
                     chain := some { certs := [yLeaf, yRoot], sig := [(0, 1), (1, 1)], sigSelf := [1] } },
    ext := [], agent := "", ts := .notConfigured }

example : ∃ c, sign .cose (yReq ⟨2, 256⟩) = .ok c ∧ c.alg = 4 := by
  refine ⟨_, rfl, ?_⟩; rfl
/-- the signer announces P-384 (an approved key) over a P-256 leaf: refused in both formats -/
example : ∀ fmt c, sign fmt (yReq ⟨2, 384⟩) ≠ .ok c := by
  intro fmt c
  refine C02_sign_mismatch_refused fmt _ _ ⟨2, 384⟩ _ yLeaf [yRoot] rfl rfl rfl rfl ?_ c
  intro row hrow hk
  simp only [table, List.mem_cons, List.not_mem_nil, or_false] at hrow
  rcases hrow with rfl | rfl | rfl | rfl | rfl | rfl <;> simp [yLeaf] at hk <;> decide

end NotationCore.Props
