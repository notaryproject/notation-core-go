import NotationCore.Generated.Shape
/-!
  C09 tie: the inventory of panic-capable sites of every package in scope — index and slice expressions on
  slices / arrays / strings, single-value type assertions, explicit panics, integer division by a
  non-constant, non-range loops, channel operations, direct recursion, discarded error results, calls into other modules that hand back a
  pointer without an error (nil = nothing found: `pem.Decode`) — as extracted from the *current* source
  (an index expression inside an `if` condition is recorded together with that whole condition: its guard),
  equals the inventory that was reviewed site by site (the review note is the doc comment of each lemma). A new unguarded index, assertion, loop, discarded error or
  recursive call changes the inventory and breaks the lemma of its package.
-/
namespace NotationCore.TieC09
open NotationCore.Generated

/-- reviewed: RegisteredEnvelopeTypes / NewEnvelope / ParseEnvelope: the sync.Map is written only by RegisterEnvelopeType(string, …, envelopeFunc), so the
    assertions cannot fail; NewLocalSigner: `certs[0]` after `len(certs) == 0` returned; WithContext: deliberate panic on a nil context (caller's
    programming error, not input) -/
theorem panicSites_signature :
    Shape.panicSites_signature =
      ["RegisteredEnvelopeTypes: assert k.(string)",
       "NewEnvelope: assert val.(envelopeFunc)",
       "ParseEnvelope: assert val.(envelopeFunc)",
       "NewLocalSigner: index certs[0]",
       "NewLocalSigner: index certs[0] within !isKeyPair(key, certs[0].PublicKey, keySpec)",
       "SignRequest.WithContext: panic panic(\"nil context\")"] := rfl

/-- reviewed: init: registration at package load (no input); Sign: `signedAttrs[signingScheme].(string)` — the map comes from getSignedAttributes, which
    fails for any scheme but the two known ones and always sets this member from a Go string; Verify: `CertChain[0]` after `len(CertChain) == 0`
    returned; generateJWS: `parts[0..2]` after `len(parts) != 3` returned, `rawCerts[i]` inside `range certs` with `rawCerts` made of that length -/
theorem panicSites_signature_jws :
    Shape.panicSites_signature_jws =
      ["init: panic panic(err)",
       "envelope.Sign: assert signedAttrs[headerKeySigningScheme].(string)",
       "envelope.Verify: index e.base.Header.CertChain[0]",
       "generateJWS: index rawCerts[i]",
       "generateJWS: index parts[0]",
       "generateJWS: index parts[1]",
       "generateJWS: index parts[2]"] := rfl

/-- reviewed: init: algorithm registrations at package load; Verify: `certs[0]` after `!ok || len(certs) == 0` returned; generateUnprotectedHeaders:
    `certChain[i]` inside `range certs`, slice made of that length; parseProtectedHeaders: `protected[signingScheme].(string)` — validateCritHeaders
    ran first and returned an error unless that member is a string (comma-ok form there) -/
theorem panicSites_signature_cose :
    Shape.panicSites_signature_cose =
      ["init: panic panic(err)",
       "init: panic panic(err)",
       "init: panic panic(err)",
       "envelope.Verify: index certs[0]",
       "generateUnprotectedHeaders: index certChain[i]",
       "parseProtectedHeaders: assert protected[headerLabelSigningScheme].(string)"] := rfl

/-- reviewed: validateCertificateChain: `certChain[0]` after ValidateCodeSigningCertChain succeeded, which refuses an empty chain -/
theorem panicSites_signature_internal_base :
    Shape.panicSites_signature_internal_base =
      ["validateCertificateChain: index certChain[0]"] := rfl

/-- reviewed: parseCertificates: `for block != nil` — each iteration's pem.Decode(rest) returns a strictly shorter rest (Props.C09: pemLoop terminates);
    Validate…CertChain: `certChain[0]` after `len(certChain) < 1` returned; `certChain[i+1]` inside `range certChain` behind `i == len-1` handling of
    the root; `ExtKeyUsage[0]` right of `len(ExtKeyUsage) != 1 ||`; the three `pem.Decode` calls (a nil block = no PEM data): in parseCertificates the
    first feeds `if block == nil` (DER branch) and the second is the loop's own `block != nil` condition; in ParsePrivateKeyPEM the single call is
    followed by `if block == nil { return error }` before `block.Type` (Model.Parse.parsePrivateKeyPEM, Props.C09_parsePrivateKeyPEM_cases) -/
theorem panicSites_x509 :
    Shape.panicSites_x509 =
      ["parseCertificates: may-be-nil pem.Decode",
       "parseCertificates: loop block != nil",
       "parseCertificates: may-be-nil pem.Decode",
       "ValidateCodeSigningCertChain: index certChain[0]",
       "ValidateCodeSigningCertChain: index certChain[i+1]",
       "ParsePrivateKeyPEM: may-be-nil pem.Decode",
       "ValidateTimestampingCertChain: index certChain[0]",
       "ValidateTimestampingCertChain: index certChain[i+1]",
       "validateTimestampingExtendedKeyUsage: index cert.ExtKeyUsage[0] within len(cert.ExtKeyUsage) != 1 || cert.ExtKeyUsage[0] != x509.ExtKeyUsageTimeStamping || len(cert.UnknownExtKeyUsage) != 0"] := rfl

/-- reviewed: ValidateContext: see Tie.revocation_ValidateContext_skel and Model.Conc (C17): `certChain[:len-1]` after the empty-chain check,
    `certChain[i+1]` / `certResults[i]` with `i` ranging over that slice, `certResults[len-1]`, channel operations and the re-panic are the skeleton -/
theorem panicSites_revocation :
    Shape.panicSites_revocation =
      ["revocation.ValidateContext: close close(panicChan)",
       "revocation.ValidateContext: slice certChain[:len(certChain)-1]",
       "revocation.ValidateContext: send panicChan <- r",
       "revocation.ValidateContext: index certChain[i+1]",
       "revocation.ValidateContext: index certChain[i+1]",
       "revocation.ValidateContext: index certResults[i]",
       "revocation.ValidateContext: index certResults[i]",
       "revocation.ValidateContext: send panicChan <- r",
       "revocation.ValidateContext: index certResults[i]",
       "revocation.ValidateContext: index certChain[i+1]",
       "revocation.ValidateContext: index certResults[i]",
       "revocation.ValidateContext: index certResults[len(certChain)-1]",
       "revocation.ValidateContext: panic panic(p)"] := rfl

/-- reviewed: CheckStatus: same skeleton (Tie.ocsp_CheckStatus_skel), after `len(opts.CertChain) == 0` returned -/
theorem panicSites_revocation_ocsp :
    Shape.panicSites_revocation_ocsp =
      ["CheckStatus: close close(panicChan)",
       "CheckStatus: slice opts.CertChain[:len(opts.CertChain)-1]",
       "CheckStatus: send panicChan <- r",
       "CheckStatus: index certResults[i]",
       "CheckStatus: index opts.CertChain[i+1]",
       "CheckStatus: index certResults[len(opts.CertChain)-1]",
       "CheckStatus: panic panic(p)"] := rfl

/-- reviewed: parseCRLDistributionPoint: both loops consume at least one TLV of a cryptobyte.String per iteration or return (Model.Fetcher.parsePoints
    is structural) -/
theorem panicSites_revocation_crl :
    Shape.panicSites_revocation_crl =
      ["parseCRLDistributionPoint: loop !val.Empty()",
       "parseCRLDistributionPoint: loop !dpNameDER.Empty()"] := rfl

/-- reviewed: CertCheckStatus: `serverResults[serverIndex]` inside `range ocspURLs`, slice made of that length;
    serverResultsToCertRevocationResult: called with a one-element literal or with that slice after `!Supported(cert)` (no OCSP URL) returned -/
theorem panicSites_revocation_internal_ocsp :
    Shape.panicSites_revocation_internal_ocsp =
      ["CertCheckStatus: index serverResults[serverIndex]",
       "serverResultsToCertRevocationResult: index serverResults[len(serverResults)-1]"] := rfl

/-- reviewed: checkRevocation: indices from `range` over the same slice -/
theorem panicSites_revocation_internal_crl :
    Shape.panicSites_revocation_internal_crl =
      ["checkRevocation: index b.BaseCRL.RevokedCertificateEntries[i] within !yield(&b.BaseCRL.RevokedCertificateEntries[i])",
       "checkRevocation: index b.DeltaCRL.RevokedCertificateEntries[i] within !yield(&b.DeltaCRL.RevokedCertificateEntries[i])"] := rfl

/-- reviewed: FindExtensionByOID: `extensions[idx]` after `idx < 0` returned -/
theorem panicSites_revocation_internal_x509util :
    Shape.panicSites_revocation_internal_x509util =
      ["FindExtensionByOID: index extensions[idx]"] := rfl

/-- reviewed: none -/
theorem panicSites_revocation_result :
    Shape.panicSites_revocation_result =
      [] := rfl

/-- reviewed: none -/
theorem panicSites_revocation_purpose :
    Shape.panicSites_revocation_purpose =
      [] := rfl

/-- reviewed: revocationResult: `i` counts down from `len-1` to 0; `certChain[i]` after `len(certResults) != len(certChain)` returned -/
theorem panicSites_internal_timestamp :
    Shape.panicSites_internal_timestamp =
      ["revocationResult: loop i >= 0",
       "revocationResult: index certChain[i]",
       "revocationResult: index certResults[i]"] := rfl

/-- reviewed: ExtractKeySpec: `key.Curve.Params().BitSize` — for a key out of a parsed certificate crypto/x509 has set `Curve` to one of the
    standard curves (an unknown curve is a parse error), whose `Params()` is never nil; a hand-built `ecdsa.PublicKey{}` is the caller's own object,
    not untrusted input -/
theorem panicSites_internal_algorithm :
    Shape.panicSites_internal_algorithm =
      ["ExtractKeySpec: may-be-nil key.Curve.Params"] := rfl

/-- reviewed: none -/
theorem panicSites_internal_oid :
    Shape.panicSites_internal_oid =
      [] := rfl

end NotationCore.TieC09
