import NotationCore.Generated.Tables
import NotationCore.Generated.Shape
namespace NotationCore.Tie
open NotationCore.Generated

/-- `validateSigningTime`: bounds are inclusive (Before / After, not !After / !Before) — Model.Chain.validateSigningTime -/
theorem x509_validateSigningTime :
    Shape.x509_validateSigningTime = ["signingTime.Before(cert.NotBefore)", "signingTime.After(cert.NotAfter)"] := rfl

/-- the only public key types `ExtractKeySpec` knows — shape of `Model.Algorithm.extractKeySpec` -/
theorem extract_key_types : extractKeyTypes = ["ecdsa.PublicKey", "rsa.PublicKey"] := rfl

end NotationCore.Tie
