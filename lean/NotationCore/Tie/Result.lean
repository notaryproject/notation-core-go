import NotationCore.Generated.Tables
namespace NotationCore.Tie
open NotationCore.Generated

/-- enum values the model's `Result` / `Method` constructors stand for -/
theorem result_values :
    (resultUnknown, resultOK, resultNonRevokable, resultRevoked) = (0, 1, 2, 3) ∧
    (methodUnknown, methodOCSP, methodCRL, methodOCSPFallbackCRL) = (0, 1, 2, 3) := ⟨rfl, rfl⟩

end NotationCore.Tie
