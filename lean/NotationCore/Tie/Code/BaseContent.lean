import NotationCore.Tie.Code.Base
/-!
  Tie by translation, the wrapper's re-validation of envelope content
  (`signature/internal/base/envelope.go`): `validatePayload`, `getSignatureAlgorithm`,
  `validateCertificateChain`, `validateSignerInfo`, `validateEnvelopeContent`, as regenerated
  syntax trees, accept exactly when the model's `Base.validateEnvelopeContent` does — non-empty
  payload and signature, an algorithm, signing / expiry times, a scheme, a non-empty chain that
  `x509.ValidateCodeSigningCertChain` accepts (a cross-package call: the primitive `chainOK`,
  whose own tie is `C03_code`) and whose leaf key dictates the declared algorithm.

  Each function has one equation (`…_eq`: the `error` it returns, check by check); that this is nil
  exactly when the model accepts, and that it is always an `error`, are read off that value.
-/
namespace NotationCore.Tie.Code.Base
open GoSem Generated.Ast

def primErr : Val := .err "·prim" 0 []

/-- cross-package calls: the chain verdict and the algorithm of the leaf key -/
def cprims (chainOK : Bool) (leafAlg : Option Nat) : Prims := fun name args =>
  match name, args with
  | "x509.ValidateCodeSigningCertChain", [_, _] => some (if chainOK then .nil else primErr)
  | "signature.ExtractKeySpec", [_] => some (match leafAlg with
      | some _ => .tuple [.opaque 1, .nil]
      | none => .tuple [.opaque 1, primErr])
  | "SignatureAlgorithm", [_] => some (match leafAlg with
      | some a => .int a
      | none => .int 0)
  | _, _ => none

def cfuncs : List Func := [base_validatePayload, base_validateSignerInfo, base_validateCertificateChain, base_getSignatureAlgorithm,
  base_validateEnvelopeContent, base_validateSigningAndExpiryTime, base_validateSigningSchema, base_validateSignRequest]

theorem cnames_nodup : (cfuncs.map (·.name)).Nodup := by decide +kernel

/-- the lookup of a function of the package under its own name (cf. `X509.names_nodup`) -/
theorem cfind (f : Func) (hf : f ∈ cfuncs := by simp only [cfuncs, List.mem_cons, true_or, or_true]) :
    cfuncs.find? (fun g => g.name == f.name) = some f :=
  find?_name_of_mem cnames_nodup hf

/-! ### `error` values (cf. `valEq_nilOrErr` … in `GoSem.Exec`) -/
section
variable {p : Prop} [Decidable p] {f : String} {k : Nat} {w : List Val} {v : Val}
/- `if err != nil { return err }` returns the callee's value under the very condition that decides whether it is an error:
   the inner `if` collapses -/
theorem ite_ite_same {α} (a b d : α) : (if p then (if p then a else b) else d) = if p then a else d := by
  split <;> rfl
theorem ite_false_ite {α} (c : Bool) (a b d : α) :
    (if c = false then (if c = true then a else b) else d) = if c = false then b else d := by
  cases c <;> rfl

/-- what a Go function of type `error` hands back -/
def IsError (v : Val) : Prop := v = .nil ∨ ∃ f k w, v = .err f k w

theorem nilOrErr_isError : IsError (if p then .nil else .err f k w) := by
  unfold IsError; split <;> simp
theorem errOr_isError (h : IsError v) : IsError (if p then .err f k w else v) := by
  split
  · exact .inr ⟨f, k, w, rfl⟩
  · exact h
theorem IsError.flatten (h : IsError v) : flatten [v] = [v] := by
  obtain h | ⟨f, k, w, h⟩ := h <;> rw [h] <;> rfl
end
attribute [local simp] ite_ite_same ite_false_ite

def payloadV (len : Nat) : Val := .obj [("Content", .list (List.replicate len (.opaque 0)))]

/-- no primitive is called: under `cprims` and under `rprims` alike -/
theorem validatePayload_sem {prims : Prims} (n len : Nat) :
    sem prims cfuncs (n + 1) "validatePayload" [payloadV len] = some (if len = 0 then .err "validatePayload" 0 [] else .nil) := by
  refine (sem_find _ _ (cfind base_validatePayload)).trans ?_
  go_run [base_validatePayload, payloadV, field, ← apply_ite some]

section
variable (chainOK : Bool) (leafAlg : Option Nat)
local notation "csem" => sem (cprims chainOK leafAlg) cfuncs

theorem validatePayload_eq (n len : Nat) :
    csem (n + 1) "validatePayload" [payloadV len] = some (if len = 0 then .err "validatePayload" 0 [] else .nil) :=
  validatePayload_sem n len

def cprimNames : List String := ["x509.ValidateCodeSigningCertChain", "signature.ExtractKeySpec", "SignatureAlgorithm"]

/-- calls to functions of the package pass through `cprims` (cf. `builtin_none`) -/
theorem cprims_none {name : String} (h : name ∉ cprimNames) (args : List Val) : cprims chainOK leafAlg name args = none := by
  unfold cprims
  split <;> first | rfl | simp [cprimNames] at h

theorem prim_chain (a b : Val) :
    cprims chainOK leafAlg "x509.ValidateCodeSigningCertChain" [a, b] = some (if chainOK then .nil else primErr) := by
  simp only [cprims]

theorem getSignatureAlgorithm_eq (n : Nat) (leaf : Val) :
    csem (n + 1) "getSignatureAlgorithm" [leaf]
      = some (match leafAlg with
          | some a => .tuple [.int a, .nil]
          | none => .tuple [.int 0, primErr]) := by
  refine (sem_find _ _ (cfind base_getSignatureAlgorithm)).trans ?_
  cases leafAlg <;> go_run [base_getSignatureAlgorithm, cprims, primErr]

/-- the model's verdict on the chain part -/
def chainAccepts (alg : Nat) (chain : List Val) : Bool :=
  !chain.isEmpty && chainOK && (match leafAlg with | some a => a == alg | none => false)

/-- ordinal of the error `validateCertificateChain` makes: the first of its checks that fails -/
def chainSite (chain : List Val) : Nat :=
  if chain.isEmpty then 0 else if chainOK = false then 1 else if leafAlg = none then 2 else 3

theorem validateCertificateChain_eq (n : Nat) (chain : List Val) (stv : Val) (alg : Nat) :
    csem (n + 2) "validateCertificateChain" [.list chain, stv, .int alg]
      = some (if chainAccepts chainOK leafAlg alg chain then .nil
              else .err "validateCertificateChain" (chainSite chainOK leafAlg chain) []) := by
  refine (sem_find _ _ (cfind base_validateCertificateChain)).trans ?_
  -- the code indexes `chain[0]`, and the two primitives answer by `match leafAlg`: these shapes first
  cases chain with
  | nil => go_run [base_validateCertificateChain, chainAccepts, chainSite]
  | cons c r =>
    have hl : ¬ (r.length : Int) + 1 = 0 := by omega
    cases leafAlg <;>
      go_run [base_validateCertificateChain, hl, prim_chain, primErr, getSignatureAlgorithm_eq, cprims_none, cprimNames,
        ← apply_ite some] <;>
      cases chainOK <;> simp [chainAccepts, chainSite]

theorem validateCertificateChain_nil_iff (n : Nat) (chain : List Val) (stv : Val) (alg : Nat) :
    csem (n + 2) "validateCertificateChain" [.list chain, stv, .int alg] = some .nil
      ↔ chainAccepts chainOK leafAlg alg chain = true := by
  rw [validateCertificateChain_eq]
  simp

/-- some value is always returned (no stuck state) -/
theorem validateCertificateChain_total (n : Nat) (chain : List Val) (stv : Val) (alg : Nat) :
    ∃ v, csem (n + 2) "validateCertificateChain" [.list chain, stv, .int alg] = some v ∧ (v = .nil ∨ ∃ k w, v = .err "validateCertificateChain" k w) := by
  refine ⟨_, validateCertificateChain_eq .., ?_⟩
  split <;> simp

def signerInfoV (sigLen alg : Nat) (st ex : Int) (scheme : String) (chain : List Val) : Val :=
  .obj [("Signature", .list (List.replicate sigLen (.opaque 0))), ("SignatureAlgorithm", .int alg),
    ("SignedAttributes", .obj [("SigningTime", .int st), ("Expiry", .int ex), ("SigningScheme", .str scheme)]),
    ("CertificateChain", .list chain)]

/-- the `error` of `validateSignerInfo`: one of its own two, or the one a callee made -/
def signerInfoErr (sigLen alg : Nat) (st ex : Int) (scheme : String) (chain : List Val) : Val :=
  if sigLen = 0 then .err "validateSignerInfo" 0 []
  else if alg = 0 then .err "validateSignerInfo" 1 []
  else if ¬ NotationCore.Base.validateSigningAndExpiryTime st ex then
    .err "validateSigningAndExpiryTime" (if isZeroT st then 0 else 1) []
  else if scheme = "" then .err "validateSigningSchema" 0 []
  else if chainAccepts chainOK leafAlg alg chain then .nil
  else .err "validateCertificateChain" (chainSite chainOK leafAlg chain) []

theorem validateSignerInfo_eq (n : Nat) (sigLen alg : Nat) (st ex : Int) (scheme : String) (chain : List Val) :
    csem (n + 3) "validateSignerInfo" [signerInfoV sigLen alg st ex scheme chain]
      = some (signerInfoErr chainOK leafAlg sigLen alg st ex scheme chain) := by
  refine (sem_find _ _ (cfind base_validateSignerInfo)).trans ?_
  go_run [base_validateSignerInfo, signerInfoV, signerInfoErr, field, validateSigningAndExpiryTime_sem (cfind base_validateSigningAndExpiryTime),
    validateSigningSchema_sem (cfind base_validateSigningSchema), validateCertificateChain_eq, cprims_none, cprimNames, ← apply_ite some]

theorem signerInfoErr_isError (sigLen alg : Nat) (st ex : Int) (scheme : String) (chain : List Val) :
    IsError (signerInfoErr chainOK leafAlg sigLen alg st ex scheme chain) :=
  errOr_isError (errOr_isError (errOr_isError (errOr_isError nilOrErr_isError)))

theorem validateSignerInfo_nil_iff (n : Nat) (sigLen alg : Nat) (st ex : Int) (scheme : String) (chain : List Val) :
    csem (n + 3) "validateSignerInfo" [signerInfoV sigLen alg st ex scheme chain] = some .nil
      ↔ (sigLen != 0 && alg != 0 && NotationCore.Base.validateSigningAndExpiryTime st ex && scheme != "" &&
          chainAccepts chainOK leafAlg alg chain) = true := by
  rw [validateSignerInfo_eq]
  simp [signerInfoErr, errOr_eq_nil, and_assoc]

theorem validateSignerInfo_total (n : Nat) (sigLen alg : Nat) (st ex : Int) (scheme : String) (chain : List Val) :
    ∃ v, csem (n + 3) "validateSignerInfo" [signerInfoV sigLen alg st ex scheme chain] = some v ∧
      (v = .nil ∨ ∃ f k w, v = .err f k w) :=
  ⟨_, validateSignerInfo_eq .., signerInfoErr_isError ..⟩

/-- `*signature.EnvelopeContent` as the wrapper reads it -/
def contentV (payloadLen sigLen alg : Nat) (st ex : Int) (scheme : String) (chain : List Val) : Val :=
  .obj [("Payload", payloadV payloadLen), ("SignerInfo", signerInfoV sigLen alg st ex scheme chain)]

theorem validateEnvelopeContent_eq (n : Nat) (payloadLen sigLen alg : Nat) (st ex : Int) (scheme : String) (chain : List Val) :
    csem (n + 4) "validateEnvelopeContent" [contentV payloadLen sigLen alg st ex scheme chain]
      = some (if payloadLen = 0 then .err "validateEnvelopeContent" 0 []
              else signerInfoErr chainOK leafAlg sigLen alg st ex scheme chain) := by
  refine (sem_find _ _ (cfind base_validateEnvelopeContent)).trans ?_
  go_run [base_validateEnvelopeContent, contentV, field, validatePayload_sem, validateSignerInfo_eq,
    (signerInfoErr_isError ..).flatten, cprims_none, cprimNames, ← apply_ite some]

/-- **`validateEnvelopeContent(content)`, as regenerated, returns a nil error exactly when the
    model's `Base.validateEnvelopeContent` holds** (payload, signature, algorithm, times, scheme,
    chain accepted by `x509.ValidateCodeSigningCertChain`, leaf key dictating the algorithm). -/
theorem validateEnvelopeContent_nil_iff (n : Nat) (payloadLen sigLen alg : Nat) (st ex : Int) (scheme : String)
    (chain : List Val) :
    csem (n + 4) "validateEnvelopeContent" [contentV payloadLen sigLen alg st ex scheme chain] = some .nil
      ↔ (payloadLen != 0 && sigLen != 0 && alg != 0 && NotationCore.Base.validateSigningAndExpiryTime st ex && scheme != "" &&
          chainAccepts chainOK leafAlg alg chain) = true := by
  rw [validateEnvelopeContent_eq]
  simp [signerInfoErr, errOr_eq_nil, and_assoc]

end

/-- … stated against the model record: with the two cross-package answers read off the model's
    chain information, the regenerated `validateEnvelopeContent` accepts exactly when
    `Base.validateEnvelopeContent` does -/
theorem validateEnvelopeContent_model (n : Nat) (ci : NotationCore.Base.ChainInfo) (c : NotationCore.Base.Content)
    (chain : List Val) (hlen : chain.isEmpty = ci.certs.isEmpty) :
    sem (cprims (Chain.accepted (Chain.validateCodeSigning ci.sigF ci.sigSelfF ci.certs none))
          (match ci.certs with | leaf :: _ => Algorithm.keyAlg leaf.key | [] => none)) cfuncs (n + 4)
        "validateEnvelopeContent" [contentV c.payloadLen c.sigLen c.alg c.signingTime c.expiry c.scheme chain] = some .nil
      ↔ NotationCore.Base.validateEnvelopeContent ci c = true := by
  rw [validateEnvelopeContent_nil_iff]
  unfold NotationCore.Base.validateEnvelopeContent NotationCore.Base.validateCertificateChain chainAccepts
  rw [hlen]
  -- once `ci.certs` is a constructor the `match`es on it compute, and the two sides are the same Boolean
  cases ci.certs with
  | nil => rfl
  | cons leaf r => rfl

section
/-! ### `validateSignRequest` (the early refusals of `Sign`) -/

/-- a signer whose `KeySpec()` succeeds or fails -/
def signerV (keySpecOK : Bool) : Val := .obj [("keySpecOK", .bool keySpecOK)]

def rprims : Prims := fun name args =>
  match name, args with
  | "KeySpec", [s] => (match field s "keySpecOK" with
      | some (.bool true) => some (.tuple [.opaque 1, .nil])
      | some (.bool false) => some (.tuple [.opaque 1, primErr])
      | _ => none)
  | _, _ => none

def requestV (payloadLen : Nat) (st ex : Int) (signer : Option Bool) (scheme : String) : Val :=
  .obj [("Payload", payloadV payloadLen), ("SigningTime", .int st), ("Expiry", .int ex),
    ("Signer", match signer with | none => .nil | some ok => signerV ok), ("SigningScheme", .str scheme)]

local notation "rsem" => sem rprims cfuncs

theorem rprims_none {name : String} (h : name ≠ "KeySpec") (args : List Val) : rprims name args = none := by
  unfold rprims
  split <;> first | rfl | simp at h

theorem prim_keySpec (ok : Bool) : rprims "KeySpec" [signerV ok] = some (.tuple [.opaque 1, if ok then .nil else primErr]) := by
  cases ok <;> rfl

theorem valEq_signerV (ok : Bool) : valEq (signerV ok) .nil = some false := rfl

theorem validateSignRequest_eq (n : Nat) (payloadLen : Nat) (st ex : Int) (signer : Option Bool) (scheme : String) :
    rsem (n + 2) "validateSignRequest" [requestV payloadLen st ex signer scheme] = some (
      if payloadLen = 0 then .err "validateSignRequest" 0 []
      else if ¬ NotationCore.Base.validateSigningAndExpiryTime st ex then
        .err "validateSigningAndExpiryTime" (if isZeroT st then 0 else 1) []
      else if signer = none then .err "validateSignRequest" 1 []
      else if signer = some false then primErr
      else if scheme = "" then .err "validateSigningSchema" 0 []
      else .nil) := by
  refine (sem_find _ _ (cfind base_validateSignRequest)).trans ?_
  -- `req.Signer` is nil or an object
  cases signer <;>
    go_run [base_validateSignRequest, requestV, field, validatePayload_sem, validateSigningAndExpiryTime_sem (cfind base_validateSigningAndExpiryTime),
      validateSigningSchema_sem (cfind base_validateSigningSchema), rprims_none, prim_keySpec, valEq_signerV, primErr, ← apply_ite some]

/-- **`validateSignRequest(req)` returns a nil error exactly on a request with a non-empty payload,
    a signing time that is set and an expiry (if any) strictly after it, a signer whose `KeySpec()`
    succeeds, and a signing scheme** — the early refusals of C16 -/
theorem validateSignRequest_nil_iff (n : Nat) (payloadLen : Nat) (st ex : Int) (signer : Option Bool) (scheme : String) :
    rsem (n + 2) "validateSignRequest" [requestV payloadLen st ex signer scheme] = some .nil
      ↔ (payloadLen != 0 && NotationCore.Base.validateSigningAndExpiryTime st ex && (signer == some true) && scheme != "") = true := by
  rw [validateSignRequest_eq]
  rcases signer with _ | _ | _ <;> simp [errOr_eq_nil, primErr, and_assoc]

end
end NotationCore.Tie.Code.Base
