import NotationCore.GoSem.Exec
import NotationCore.Generated.Ast.Fetcher
import NotationCore.Model.Fetcher
/-!
  Tie by translation, `revocation/crl/fetcher.go`: the regenerated syntax tree of `isEffective`
  means `Fetcher.effective` — for every list and every reading of the clock, the boundary
  `now == NextUpdate` included (no dynamic test can hold the wall clock on it).
-/
namespace NotationCore.Tie.Code.Fetcher
open GoSem Generated.Ast

/-- `*x509.RevocationList`, the one field `isEffective` reads -/
def crlV (c : Fetcher.Crl) : Val := .obj [("NextUpdate", .int c.nextUpdate)]

/-- the wall clock -/
def prims (now : Int) : Prims := fun name args =>
  match name, args with
  | "time.Now", [] => some (.int now)
  | _, _ => none

/-- `isEffective` in any package that holds it, under any primitives whose clock reads `now` -/
theorem isEffective_sem {prims : Prims} {fs : List Func} {now : Int} (hnow : prims "time.Now" [] = some (.int now))
    (hfind : fs.find? (fun f => f.name == "isEffective") = some fetcher_isEffective) (n : Nat) (c : Fetcher.Crl) :
    sem prims fs (n + 1) "isEffective" [crlV c] = some (.bool (Fetcher.effective now c)) := by
  rw [sem_find _ _ hfind]
  go_run [fetcher_isEffective, crlV, field, hnow, Fetcher.effective, isZeroT, zeroT, Bool.beq_eq_decide_eq]

theorem isEffective_eq (now : Int) (n : Nat) (c : Fetcher.Crl) :
    sem (prims now) [fetcher_isEffective] (n + 1) "isEffective" [crlV c] = some (.bool (Fetcher.effective now c)) :=
  isEffective_sem rfl (by simp [fetcher_isEffective]) n c

end NotationCore.Tie.Code.Fetcher
