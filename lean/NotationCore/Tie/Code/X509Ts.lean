import NotationCore.Tie.Code.X509Chain
/-!
  Tie by translation, the timestamping twins of `x509/timestamp_cert_validations.go`: key usage
  extension present (no criticality demand), CA and leaf key usage, the extended key usage rule
  (exactly `id-kp-timeStamping`, nothing unknown, the extension critical when present), the CA and
  leaf compositions.  Same method as for code signing; the shared helpers are already tied.
-/
namespace NotationCore.Tie.Code.X509
open GoSem Chain Generated.Ast

section
variable (sig : Sig) (sigSelf : SigSelf)

def tsKuBody : List Stmt := rangeBody (x509_validateTimestampingKeyUsagePresent.body.getD 1 (.opaque ""))

theorem tsKuLoop (fn : String) (cal) (cv : Val) : ∀ (exts : List (Int × Bool)) (i : Nat),
    rangeLoop (fun st => execBlock ⟨fn, prims sig sigSelf, cal⟩ st tsKuBody) "_" "v2" i (exts.map extV)
        [[("v1", .bool false), ("v0", cv)]]
      = match findExt oidKeyUsage exts with
        | none => .next [[("v1", .bool false), ("v0", cv)]]
        | some _ => .next [[("v1", .bool true), ("v0", cv)]] := by
  simp only [tsKuBody, rangeBody, x509_validateTimestampingKeyUsagePresent, List.getD_cons_succ, List.getD_cons_zero]
  show ∀ (exts : List (Int × Bool)) i, loop _ _ "_" "v2" i (exts.map extV) _ = _
  intro exts
  induction exts with
  | nil => intro i; rfl
  | cons e r ih =>
    intro i
    go_run [extV, field, ih, findExt, oidKeyUsage]
    by_cases h : e.1 = 15 <;> simp only [h, if_true, if_false]

theorem validateTimestampingKeyUsagePresent_eq (n : Nat) (c : Cert) (exts) :
    call[sig, sigSelf] (n + 1) "validateTimestampingKeyUsagePresent" [certV c exts]
      = some (errV .timestamping (tsKeyUsagePresent { c with kuExt := findExt oidKeyUsage exts })) := by
  refine (call_eq sig sigSelf x509_validateTimestampingKeyUsagePresent _ _).trans ?_
  have key : loop _ _ "_" "v2" 0 _ _ = _ :=
    tsKuLoop sig sigSelf "validateTimestampingKeyUsagePresent" (call[sig, sigSelf] n) (certV c exts) exts 0
  simp only [tsKuBody, rangeBody, x509_validateTimestampingKeyUsagePresent, List.getD_cons_succ, List.getD_cons_zero] at key
  cases h : findExt oidKeyUsage exts <;> rw [h] at key <;>
    go_run [x509_validateTimestampingKeyUsagePresent, key, tsKeyUsagePresent, site]

theorem validateTimestampingCAKeyUsage_eq (n : Nat) (c : Cert) (exts) (h : ExtsAgree c exts) :
    call[sig, sigSelf] (n + 2) "validateTimestampingCAKeyUsage" [certV c exts]
      = some (errV .timestamping (do tsKeyUsagePresent c; caCertSign .timestamping c)) := by
  refine (call_eq sig sigSelf x509_validateTimestampingCAKeyUsage _ _).trans ?_
  have h1 := validateTimestampingKeyUsagePresent_eq sig sigSelf n c exts
  rw [withKu_eq c exts h] at h1
  go_run [x509_validateTimestampingCAKeyUsage, h1, prims_none, primNames, errV_bind, apply_ite some,
    band_certSign, caCertSign, Generated.caRequiredKuTs, apply_ite (errV _), site]

theorem validateTimestampingLeafKeyUsage_eq (n : Nat) (c : Cert) (exts) (h : ExtsAgree c exts) :
    call[sig, sigSelf] (n + 2) "validateTimestampingLeafKeyUsage" [certV c exts]
      = some (errV .timestamping (do tsKeyUsagePresent c; validateLeafKeyUsage c)) := by
  refine (call_eq sig sigSelf x509_validateTimestampingLeafKeyUsage _ _).trans ?_
  have h1 := validateTimestampingKeyUsagePresent_eq sig sigSelf n c exts
  rw [withKu_eq c exts h] at h1
  go_run [x509_validateTimestampingLeafKeyUsage, h1, validateLeafKeyUsage_eq sig sigSelf .timestamping n c exts,
    prims_none, primNames]
  simp only [errV_bind, apply_ite some]

theorem validateTimestampingCACertificate_eq (n : Nat) (c : Cert) (exts) (h : ExtsAgree c exts) (k : Nat) :
    call[sig, sigSelf] (n + 3) "validateTimestampingCACertificate" [certV c exts, .int k]
      = some (errV .timestamping (caChecks .timestamping c k)) := by
  refine (call_eq sig sigSelf x509_validateTimestampingCACertificate _ _).trans ?_
  have h1 : call[sig, sigSelf] (n + 2) "validateCABasicConstraints" [certV c exts, .int k] = _ :=
    validateCABasicConstraints_eq sig sigSelf .timestamping (n + 1) c exts k
  go_run [x509_validateTimestampingCACertificate, h1, validateTimestampingCAKeyUsage_eq sig sigSelf n c exts h,
    prims_none, primNames]
  simp only [caChecks, keyUsagePresent, errV_bind, apply_ite some]

def tsEkuBody : List Stmt := rangeBody (x509_validateTimestampingExtendedKeyUsage.body.getD 1 (.opaque ""))

theorem tsEkuLoop (fn : String) (cal) (cv : Val) : ∀ (exts : List (Int × Bool)) (i : Nat),
    rangeLoop (fun st => execBlock ⟨fn, prims sig sigSelf, cal⟩ st tsEkuBody) "_" "v1" i (exts.map extV) [[("v0", cv)]]
      = match findExt oidExtKeyUsage exts with
        | some false => .ret [.err fn 1 []]
        | _ => .next [[("v0", cv)]] := by
  simp only [tsEkuBody, rangeBody, x509_validateTimestampingExtendedKeyUsage, List.getD_cons_succ, List.getD_cons_zero]
  show ∀ (exts : List (Int × Bool)) i, loop _ _ "_" "v1" i (exts.map extV) _ = _
  intro exts
  induction exts with
  | nil => intro i; rfl
  | cons e r ih =>
    intro i
    go_run [extV, field, ih, findExt, oidExtKeyUsage]
    by_cases h : e.1 = 37 <;> simp only [h, if_true, if_false]
    cases e.2 <;> rfl

theorem validateTimestampingExtendedKeyUsage_eq (n : Nat) (c : Cert) (exts) (h : ExtsAgree c exts) :
    call[sig, sigSelf] (n + 1) "validateTimestampingExtendedKeyUsage" [certV c exts]
      = some (errV .timestamping (tsExtendedKeyUsage c)) := by
  refine (call_eq sig sigSelf x509_validateTimestampingExtendedKeyUsage _ _).trans ?_
  have key : loop _ _ "_" "v1" 0 _ _ = _ :=
    tsEkuLoop sig sigSelf "validateTimestampingExtendedKeyUsage" (call[sig, sigSelf] n) (certV c exts) exts 0
  simp only [tsEkuBody, rangeBody, x509_validateTimestampingExtendedKeyUsage, List.getD_cons_succ, List.getD_cons_zero] at key
  unfold tsExtendedKeyUsage
  rw [h.2]
  -- the shape of `ExtKeyUsage` decides whether `eku[0]` is evaluated at all
  rcases he : c.eku with _ | ⟨x, _ | ⟨y, r⟩⟩
  · go_run [x509_validateTimestampingExtendedKeyUsage, he, site]
  · have hx : (x : Int) = 8 ↔ x = 8 := by omega
    rcases hf : findExt oidExtKeyUsage exts with _ | _ | _ <;> rw [hf] at key <;>
      go_run [x509_validateTimestampingExtendedKeyUsage, he, key, hx, Generated.tsEku, apply_ite (errV _), apply_ite some, site]
  · have hl : ¬ ((r.length : Int) + 1 + 1 = 1) := by omega
    go_run [x509_validateTimestampingExtendedKeyUsage, he, hl, site]

theorem validateTimestampingLeafCertificate_eq (n : Nat) (c : Cert) (exts) (h : ExtsAgree c exts) :
    call[sig, sigSelf] (n + 3) "validateTimestampingLeafCertificate" [certV c exts]
      = some (errV .timestamping (leafChecks .timestamping c)) := by
  refine (call_eq sig sigSelf x509_validateTimestampingLeafCertificate _ _).trans ?_
  have h1 : call[sig, sigSelf] (n + 2) "validateLeafBasicConstraints" [certV c exts] = _ :=
    validateLeafBasicConstraints_eq sig sigSelf .timestamping (n + 1) c exts
  have h2 := validateTimestampingLeafKeyUsage_eq sig sigSelf n c exts h
  have h3 : call[sig, sigSelf] (n + 2) "validateTimestampingExtendedKeyUsage" [certV c exts] = _ :=
    validateTimestampingExtendedKeyUsage_eq sig sigSelf (n + 1) c exts h
  have h4 : call[sig, sigSelf] (n + 2) "validateSignatureAlgorithm" [certV c exts] = _ :=
    validateSignatureAlgorithm_eq sig sigSelf .timestamping (n + 1) c exts
  go_run [x509_validateTimestampingLeafCertificate, h1, h2, h3, h4, prims_none, primNames]
  simp only [leafChecks, keyUsagePresent, extendedKeyUsage, errV_bind, apply_ite some]
  -- left: as in `validateCodeSigningLeafCertificate_eq`
  cases tsKeyUsagePresent c <;> rfl

end
end NotationCore.Tie.Code.X509
