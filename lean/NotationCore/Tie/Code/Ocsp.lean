import NotationCore.GoSem.Exec
import NotationCore.Generated.Ast.Ocsp
import NotationCore.Generated.Ast.X509util
import NotationCore.Model.Ocsp
/-!
  Tie by translation:
  * `revocation/internal/ocsp` `validateResponder` — a response signed by an embedded certificate
    is accepted only if that certificate is the issuer's own or carries id-kp-OCSPSigning (the F4
    repair): the regenerated tree means `Ocsp.authorised`, for every list of extended key usages;
  * `revocation/internal/x509util` `ValidateChain` — the revocation validator refuses a chain
    exactly when the chain validator of its purpose does (the two cross-package calls are the
    primitives; their own ties are `C03_code` and `C14_code`).
-/
namespace NotationCore.Tie.Code.Ocsp
open GoSem Generated.Ast

/-- the embedded responder certificate: its identity and its `ExtKeyUsage` list -/
def respCertV (raw : Int) (ekus : List Nat) : Val :=
  .obj [("Raw", .int raw), ("ExtKeyUsage", .list (ekus.map (fun e => .int (Int.ofNat e))))]

def rawOf (v : Val) : Int := match field v "Raw" with
  | some (.int i) => i
  | _ => 0

/-- `(*x509.Certificate).Equal` is equality of `Raw` -/
def prims : Prims := fun name args =>
  match name, args with
  | "Equal", [a, b] => some (.bool (decide (rawOf a = rawOf b)))
  | _, _ => none

def funcs : List Func := [ocsp_validateResponder]

def rangeBody : Stmt → List Stmt
  | .range _ _ _ b => b
  | _ => []
def ekuBody : List Stmt := rangeBody (ocsp_validateResponder.body.getD 2 (.opaque ""))

/-- id-kp-OCSPSigning, as the code's constant `x509.ExtKeyUsageOCSPSigning` -/
def ocspSigningEku : Nat := 9

theorem ekuLoop (fn : String) (cal) (S : Store) : ∀ (ekus : List Nat) (i : Nat),
    rangeLoop (fun st => execBlock ⟨fn, prims, cal⟩ st ekuBody) "_" "v3" i (ekus.map (fun e => .int (Int.ofNat e))) S
      = if ekus.contains ocspSigningEku then .ret [.nil] else .next S := by
  simp only [ekuBody, rangeBody, ocsp_validateResponder, List.getD_cons_succ, List.getD_cons_zero]
  show ∀ (ekus : List Nat) i, loop _ _ "_" "v3" i (ekus.map fun e => .int (e : Nat)) _ = _
  intro ekus
  induction ekus with
  | nil => intro i; rfl
  | cons x r ih =>
    intro i
    go_run [ih, ocspSigningEku]
    norm_cast
    by_cases h : x = 9
    · simp [h]
    · simp [h, Ne.symm h]

/-- the response as `validateResponder` reads it -/
def respV : Ocsp.Signer → Int → Int → List Nat → Val
  | .issuer, _, _, _ => .obj [("Certificate", .nil)]
  | .delegate _ _, raw, _, ekus => .obj [("Certificate", respCertV raw ekus)]

theorem find_validateResponder : funcs.find? (fun f => f.name == "validateResponder") = some ocsp_validateResponder := by
  simp [funcs, ocsp_validateResponder]

/-- `cert.Equal(issuer)` on two certificate values is not the builtin on integers but the primitive -/
theorem builtin_equal_obj (fs gs : List (String × Val)) : builtin "Equal" [.obj fs, .obj gs] = none := by rfl

/-- a response signed by an embedded certificate: accepted when that certificate is the issuer's
    or one of its extended key usages is id-kp-OCSPSigning -/
theorem validateResponder_delegate (n : Nat) (raw issuerRaw : Int) (ekus : List Nat) :
    sem prims funcs (n + 1) "validateResponder" [.obj [("Certificate", respCertV raw ekus)], respCertV issuerRaw []]
      = some (if decide (raw = issuerRaw) || ekus.contains ocspSigningEku then .nil else .err "validateResponder" 0 []) := by
  rw [sem_find _ _ find_validateResponder]
  have key : ∀ S, loop _ _ "_" "v3" 0 _ S = _ := fun S => ekuLoop "validateResponder" (sem prims funcs n) S ekus 0
  simp only [ekuBody, rangeBody, ocsp_validateResponder, List.getD_cons_succ, List.getD_cons_zero, Int.ofNat_eq_natCast] at key
  go_run [ocsp_validateResponder, key, respCertV, field, builtin_equal_obj, prims, rawOf]
  by_cases h : raw = issuerRaw <;> by_cases h' : ocspSigningEku ∈ ekus <;> simp [h, h']

/-- `validateResponder(resp, issuer)` returns nil exactly when the model's `authorised` holds:
    `isIssuer` ⇔ the embedded certificate's bytes are the issuer's, `ocspSigning` ⇔ its
    `ExtKeyUsage` contains id-kp-OCSPSigning -/
theorem validateResponder_eq (n : Nat) (s : Ocsp.Signer) (raw issuerRaw : Int) (ekus : List Nat)
    (hs : ∀ a b, s = .delegate a b → a = decide (raw = issuerRaw) ∧ b = ekus.contains ocspSigningEku) :
    sem prims funcs (n + 1) "validateResponder" [respV s raw issuerRaw ekus, respCertV issuerRaw []]
      = some (if Ocsp.authorised s then .nil else .err "validateResponder" 0 []) := by
  cases s with
  | issuer =>
    rw [sem_find _ _ find_validateResponder]
    go_run [ocsp_validateResponder, respV, field, Ocsp.authorised]
  | delegate a b =>
    obtain ⟨rfl, rfl⟩ := hs a b rfl
    exact validateResponder_delegate n raw issuerRaw ekus

/-! ### `x509util.ValidateChain` -/

/-- the two chain validators (cross-package): what they answer for this chain -/
def vprims (csOK tsOK : Bool) : Prims := fun name args =>
  match name, args with
  | "x509.ValidateCodeSigningCertChain", [_, _] => some (if csOK then .nil else .err "·prim" 0 [])
  | "x509.ValidateTimestampingCertChain", [_] => some (if tsOK then .nil else .err "·prim" 0 [])
  | _, _ => none

section vprims
variable (csOK tsOK : Bool) (a b : Val)
theorem vprim_codeSigning :
    vprims csOK tsOK "x509.ValidateCodeSigningCertChain" [a, b] = some (if csOK then .nil else .err "·prim" 0 []) := by
  simp only [vprims]
theorem vprim_timestamping :
    vprims csOK tsOK "x509.ValidateTimestampingCertChain" [a] = some (if tsOK then .nil else .err "·prim" 0 []) := by
  simp only [vprims]
end vprims

theorem find_ValidateChain :
    [x509util_ValidateChain].find? (fun f => f.name == "ValidateChain") = some x509util_ValidateChain := by
  simp [x509util_ValidateChain]

/-- `ValidateChain(chain, purpose)`: purpose 0 = code signing, 1 = timestamping (the tree holds the two
    constants as literals); nil exactly when the chain validator of that purpose accepts; an unknown purpose
    is refused -/
theorem ValidateChain_eq (n : Nat) (csOK tsOK : Bool) (chain : Val) (purpose : Nat) :
    sem (vprims csOK tsOK) [x509util_ValidateChain] (n + 1) "ValidateChain" [chain, .int purpose]
      = some (match purpose with
          | 0 => if csOK then .nil else .err "ValidateChain" 0 []
          | 1 => if tsOK then .nil else .err "ValidateChain" 1 []
          | _ => .err "ValidateChain" 2 []) := by
  rw [sem_find _ _ find_ValidateChain]
  go_run [x509util_ValidateChain, vprim_codeSigning, vprim_timestamping]
  match purpose with
  | 0 => cases csOK <;> rfl
  | 1 => cases tsOK <;> rfl
  | k + 2 => rw [if_neg (by omega), if_neg (by omega)]; rfl

/-! ### `Supported` (method selection, C11) -/

theorem find_Supported : [ocsp_Supported].find? (fun f => f.name == "Supported") = some ocsp_Supported := by
  simp [ocsp_Supported]

/-- `ocsp.Supported(cert)`: the certificate names at least one OCSP responder -/
theorem Supported_eq (n : Nat) (servers : List Val) :
    sem prims [ocsp_Supported] (n + 1) "Supported" [.obj [("OCSPServer", .list servers)]]
      = some (.bool (!servers.isEmpty)) := by
  rw [sem_find _ _ find_Supported]
  go_run [ocsp_Supported, field]
  cases servers <;> simp

end NotationCore.Tie.Code.Ocsp
