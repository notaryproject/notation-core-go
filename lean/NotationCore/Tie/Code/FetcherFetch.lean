import NotationCore.Tie.Code.Fetcher
/-!
  Tie by translation, `HTTPFetcher.Fetch` (`revocation/crl/fetcher.go`): the decision structure of a
  fetch — empty URL, cache consulted first, a hit served only while base and delta are effective,
  `ErrCacheMiss` against any other read error, `DiscardCacheError`, download, the write to the
  cache and its error — as the regenerated syntax tree, returns what the model's `Fetcher.fetch`
  returns, for every world (cache content and faults, server answers, clock) and both options.
  The cache's `Get` / `Set` and the receiver's own `fetch` (the download) are primitives whose
  answers are read off the model's world; the effects on the cache are the model's, not the tree's.
-/
namespace NotationCore.Tie.Code.Fetcher
open GoSem Generated.Ast

def ffuncs : List Func := [fetcher_isEffective, fetcher_HTTPFetcher_Fetch]

def bundleV (b : Fetcher.Bundle) : Val :=
  .obj [("BaseCRL", crlV b.base), ("DeltaCRL", match b.delta with | none => .nil | some d => crlV d)]

def missErr : Val := .err "ErrCacheMiss" 0 []
def otherErr : Val := .err "·cache" 0 []
def dlErr : Val := .err "·download" 0 []

/-- the fetcher value: its cache (nil or not) and the option -/
def fetcherV (cfg : Fetcher.Config) : Val :=
  .obj [("Cache", if cfg.hasCache then .obj [] else .nil), ("DiscardCacheError", .bool cfg.discardCacheError)]

/-- `Cache.Get`, `Cache.Set`, `f.fetch`, the clock and `errors.Is(err, ErrCacheMiss)` in world `w` for URL `u` -/
def fprims (w : Fetcher.World) (u : Url) : Prims := fun name args =>
  match name, args with
  | "time.Now", [] => some (.int w.now)
  | "ErrCacheMiss", [] => some missErr
  | "errors.Is", [.err f _ _, .err g _ _] => some (.bool (decide (f = g)))
  | "Get", [_, _, _] => some (match Fetcher.cacheGet w u with
      | .hit b => .tuple [bundleV b, .nil]
      | .miss => .tuple [.nil, missErr]
      | .fault => .tuple [.nil, otherErr])
  | "fetch", [_, _, _] => some (match (Fetcher.download w u).1 with
      | some b => .tuple [bundleV b, .nil]
      | none => .tuple [.nil, dlErr])
  | "Set", [_, _, _, _] => some (if w.setFault then otherErr else .nil)
  | _, _ => none

/-- the value `Fetch` returns for a model result -/
def outV : Except Fetcher.Err (Fetcher.Bundle × Fetcher.Source) → Val
  | .ok (b, _) => .tuple [bundleV b, .nil]
  | .error .emptyUrl => .tuple [.nil, .err "HTTPFetcher.Fetch" 0 []]
  | .error .cacheGet => .tuple [.nil, .err "HTTPFetcher.Fetch" 1 [otherErr]]
  | .error .download => .tuple [.nil, .err "HTTPFetcher.Fetch" 2 [dlErr]]
  | .error .cacheSet => .tuple [.nil, .err "HTTPFetcher.Fetch" 3 [otherErr]]

/-- the call to `isEffective` falls through the primitives to the package.  Used with `↓`, before `fprims` is unfolded: on a
    name it does not know `simp` refutes its patterns one by one. -/
theorem prim_isEffective (w : Fetcher.World) (u : Url) (args : List Val) : fprims w u "isEffective" args = none := rfl

theorem find_isEffective : ffuncs.find? (fun f => f.name == "isEffective") = some fetcher_isEffective := by
  simp [ffuncs, fetcher_isEffective]
theorem find_Fetch : ffuncs.find? (fun f => f.name == "HTTPFetcher.Fetch") = some fetcher_HTTPFetcher_Fetch := by
  simp [ffuncs, fetcher_isEffective, fetcher_HTTPFetcher_Fetch]

theorem isEffective_in (w : Fetcher.World) (u : Url) (n : Nat) (c : Fetcher.Crl) :
    sem (fprims w u) ffuncs (n + 1) "isEffective" [crlV c] = some (.bool (Fetcher.effective w.now c)) :=
  isEffective_sem rfl find_isEffective n c

@[simp] theorem valEq_crlV_nil (c : Fetcher.Crl) : valEq (crlV c) .nil = some false := rfl
@[simp] theorem flatten_bundleV (b : Fetcher.Bundle) : flatten [bundleV b] = [bundleV b] := rfl

section fields
variable (cfg : Fetcher.Config) (b : Fetcher.Bundle)
theorem f_cache : field (fetcherV cfg) "Cache" = some (if cfg.hasCache then .obj [] else .nil) := by simp [field, fetcherV, fget]
theorem f_discard : field (fetcherV cfg) "DiscardCacheError" = some (.bool cfg.discardCacheError) := by simp [field, fetcherV, fget]
theorem f_base : field (bundleV b) "BaseCRL" = some (crlV b.base) := by simp [field, bundleV, fget]
theorem f_delta : field (bundleV b) "DeltaCRL" = some (match b.delta with | none => .nil | some d => crlV d) := by
  simp [field, bundleV, fget]
end fields

/-- `return` of the two values that make up `outV r` -/
theorem value_ret_outV (r) : (Flow.ret (flatten [outV r])).value = some (outV r) := by
  rcases r with (_ | _ | _ | _) | _ <;> rfl

/-- The second half of `Fetch` (download, then the write to the cache) is the model's `viaServer`.
    Every path of the first half that does not return reaches it with the store it started from. -/
theorem Fetch_viaServer (cfg : Fetcher.Config) (w : Fetcher.World) (u : Url) (ctx : Val) (cal) (gets : Nat) :
    execBlock ⟨"HTTPFetcher.Fetch", fprims w u, cal⟩ [[("v2", .str u), ("v1", ctx), ("v0", fetcherV cfg)]]
        (fetcher_HTTPFetcher_Fetch.body.drop 2)
      = .ret (flatten [outV (Fetcher.viaServer cfg w u gets).2.result]) := by
  simp only [fetcher_HTTPFetcher_Fetch, List.drop_succ_cons, List.drop_zero]
  unfold Fetcher.viaServer
  rcases hd : Fetcher.download w u with ⟨_ | b, cs⟩
  · go_run [fprims, hd, dlErr, outV]
  · cases hc : cfg.hasCache <;>
      go_run [fprims, hd, hc, f_cache, f_discard, otherErr, outV]
    -- left, with a cache: the error reported is the one `Set` handed back, `otherErr` under the condition that reports it
    cases w.setFault <;> cases cfg.discardCacheError <;> rfl

/-- **`HTTPFetcher.Fetch`, as regenerated, returns what the model's `fetch` returns** -/
theorem Fetch_eq (cfg : Fetcher.Config) (w : Fetcher.World) (u : Url) (n : Nat) (ctx : Val) :
    sem (fprims w u) ffuncs (n + 2) "HTTPFetcher.Fetch" [fetcherV cfg, ctx, .str u]
      = some (outV (Fetcher.fetch cfg w u).2.result) := by
  rw [sem_find _ _ find_Fetch]
  have tail gets := Fetch_viaServer cfg w u ctx (sem (fprims w u) ffuncs (n + 1)) gets
  simp only [fetcher_HTTPFetcher_Fetch, List.drop_succ_cons, List.drop_zero] at tail
  unfold Fetcher.fetch
  -- split where the shape of a value differs: the cache, `nil` or not; what `Get` hands back, one shape per answer; `DeltaCRL`,
  -- `nil` or a CRL.  `↓tail`: before `execBlock_cons` takes the second half apart.
  cases hc : cfg.hasCache
  · go_run [fetcher_HTTPFetcher_Fetch, ↓tail 0, hc, f_cache, value_ret_outV]
    split <;> rfl
  · rcases hg : Fetcher.cacheGet w u with _ | _ | ⟨base, _ | δ⟩ <;>
      go_run [fetcher_HTTPFetcher_Fetch, ↓tail 1, hc, hg, fprims, ↓prim_isEffective, isEffective_in,
        f_cache, f_discard, f_base, f_delta, value_ret_outV, missErr, otherErr]
    -- both sides are `if`s over the same conditions: push the model's projections to the leaves, which agree by computing `outV`
    all_goals
      simp only [Fetcher.bundleEffective, apply_ite Prod.snd, apply_ite Fetcher.Out.result, apply_ite outV, apply_ite some,
        Bool.and_true, Bool.and_eq_true, ← Bool.not_eq_true, ite_not]
      rfl

end NotationCore.Tie.Code.Fetcher
