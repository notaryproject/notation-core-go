import NotationCore.GoSem.Exec
import NotationCore.Generated.Ast.X509
import NotationCore.Model.Chain
/-!
  Tie by translation: the functions of `/repo/x509` as *regenerated syntax trees*
  (`Generated/Ast/X509.lean`) mean, under `GoSem`, exactly what the hand-written model
  `Model/Chain.lean` computes — for every certificate, every extension list, every signing time,
  every chain.  An edit to one of these Go functions changes its tree; the theorem about it is then
  re-checked against the new tree and fails unless the edit preserves the meaning.
-/
namespace NotationCore.Tie.Code.X509
open GoSem Chain Algorithm Generated.Ast

/-- one entry of `cert.Extensions`: the identity of its OID and its critical flag -/
def extV (e : Int × Bool) : Val := .obj [("Id", .int e.1), ("Critical", .bool e.2)]

/-- first extension with the given OID, as the model records it (`none` absent, `some critical`) -/
def findExt (oid : Int) : List (Int × Bool) → Option Bool
  | [] => none
  | e :: r => if e.1 == oid then some e.2 else findExt oid r

/-! identities of the two OIDs the code compares with: the last arcs of 2.5.29.15 and 2.5.29.37 -/
def oidKeyUsage : Int := 15
def oidExtKeyUsage : Int := 37

/-- The Go value of a parsed certificate, built from the model's record `c` and the certificate's
    extension list.  `keySpecOK` is not a field of `x509.Certificate`: it carries what
    `algorithm.ExtractKeySpec(cert)` answers (a primitive here; its table is tied in `C02`). -/
def certV (c : Cert) (exts : List (Int × Bool)) : Val := .obj [
  ("id", .int c.id), ("RawSubject", .int c.subject), ("RawIssuer", .int c.issuer), ("Subject", .opaque 0), ("Issuer", .opaque 1),
  ("NotBefore", .int c.notBefore), ("NotAfter", .int c.notAfter),
  ("BasicConstraintsValid", .bool c.bcValid), ("IsCA", .bool c.isCA),
  ("MaxPathLen", .int c.maxPathLen), ("MaxPathLenZero", .bool c.maxPathLenZero),
  ("KeyUsage", .int c.ku), ("Extensions", .list (exts.map extV)),
  ("ExtKeyUsage", .list (c.eku.map (fun e => .int (Int.ofNat e)))),
  ("UnknownExtKeyUsage", .list (List.replicate c.unknownEku (.opaque 2))),
  ("SignatureAlgorithm", .opaque 3), ("RawTBSCertificate", .opaque 4), ("Signature", .opaque 5),
  ("Version", .int (if c.v3 then 3 else 1)),
  ("keySpecOK", .bool (extractKeySpec c.key).isSome)]

/-- `*time.Time` -/
def optT : Option Int → Val
  | none => .nil
  | some t => .int t

/-- the error value a standard-library call hands back -/
def primErr : Val := .err "·prim" 0 []

def idOf (v : Val) : Nat := match field v "id" with
  | some (.int i) => i.toNat
  | _ => 0
def boolOf (v : Val) (f : String) : Bool := match field v f with
  | some (.bool b) => b
  | _ => false
def natOf (v : Val) (f : String) : Nat := match field v f with
  | some (.int i) => i.toNat
  | _ => 0

/-- crypto/x509 and internal/algorithm as the model assumes them (DESIGN §3): `CheckSignature` is
    the primitive `sigSelf`, `CheckSignatureFrom` is "parent may sign ∧ `sig`". -/
def prims (sig : Sig) (sigSelf : SigSelf) : Prims := fun name args =>
  match name, args with
  | "oid.KeyUsage", [] => some (.int oidKeyUsage)
  | "oid.ExtKeyUsage", [] => some (.int oidExtKeyUsage)
  | "CheckSignature", [c, _, _, _] => some (if sigSelf (idOf c) then .nil else primErr)
  | "CheckSignatureFrom", [c, p] =>
    let v3 := natOf p "Version" == 3
    let bc := boolOf p "BasicConstraintsValid"
    let ca := boolOf p "IsCA"
    let ku := natOf p "KeyUsage"
    some (if !(v3 && !bc || bc && !ca) && !(ku != 0 && !hasBit ku 32) && sig (idOf c) (idOf p) then .nil else primErr)
  | "algorithm.ExtractKeySpec", [c] => some (if boolOf c "keySpecOK" then .tuple [.opaque 6, .nil] else .tuple [.opaque 6, primErr])
  | _, _ => none

def primNames : List String :=
  ["oid.KeyUsage", "oid.ExtKeyUsage", "CheckSignature", "CheckSignatureFrom", "algorithm.ExtractKeySpec"]

/-- calls to functions of the package pass through `prims` (cf. `builtin_none`) -/
theorem prims_none (sig : Sig) (sigSelf : SigSelf) {name : String} (h : name ∉ primNames) (args : List Val) :
    prims sig sigSelf name args = none := by
  unfold prims
  split <;> first | rfl | simp [primNames] at h

def funcs : List Func := [x509_validateSigningTime, x509_validateCABasicConstraints, x509_validateLeafBasicConstraints,
  x509_validateLeafKeyUsage, x509_validateSignatureAlgorithm, x509_isSelfSigned, x509_hasSelfSignature, x509_isIssuedBy,
  x509_validateCodeSigningKeyUsagePresent, x509_validateCodeSigningCAKeyUsage, x509_validateCodeSigningLeafKeyUsage,
  x509_validateCodeSigningExtendedKeyUsage, x509_validateCodeSigningCACertificate, x509_validateCodeSigningLeafCertificate,
  x509_ValidateCodeSigningCertChain,
  x509_validateTimestampingKeyUsagePresent, x509_validateTimestampingCAKeyUsage, x509_validateTimestampingLeafKeyUsage,
  x509_validateTimestampingExtendedKeyUsage, x509_validateTimestampingCACertificate, x509_validateTimestampingLeafCertificate,
  x509_ValidateTimestampingCertChain]

/-- meaning of a call into package x509, calls nesting at most `n` deep -/
notation "call[" sig ", " sigSelf "]" => sem (prims sig sigSelf) funcs

def chainFn : Purpose → String
  | .codeSigning => "ValidateCodeSigningCertChain"
  | .timestamping => "ValidateTimestampingCertChain"

/-- the Go error value each error class of the model stands for: (function, ordinal of the error
    constructor in that function's source, wrapped errors).  Hand-written expectation.  (Ordinal 3 of
    the chain functions wraps a leaf error of a single self-signed certificate: see `chainV`.) -/
def site (p : Purpose) : Err → Val
  | .signingTime => .err "validateSigningTime" 0 []
  | .caBasicConstraints => .err "validateCABasicConstraints" 0 []
  | .caPathLen => .err "validateCABasicConstraints" 1 []
  | .leafBasicConstraints => .err "validateLeafBasicConstraints" 0 []
  | .kuNoDigitalSignature => .err "validateLeafKeyUsage" 0 []
  | .kuInvalid => .err "validateLeafKeyUsage" 1 []
  | .keySpec => .err "validateSignatureAlgorithm" 0 [primErr]
  | .kuNotCritical => .err "validateCodeSigningKeyUsagePresent" 0 []
  | .kuMissing => match p with
    | .codeSigning => .err "validateCodeSigningKeyUsagePresent" 1 []
    | .timestamping => .err "validateTimestampingKeyUsagePresent" 0 []
  | .caCertSign => match p with
    | .codeSigning => .err "validateCodeSigningCAKeyUsage" 0 []
    | .timestamping => .err "validateTimestampingCAKeyUsage" 0 []
  | .eku => match p with
    | .codeSigning => .err "validateCodeSigningExtendedKeyUsage" 0 []
    | .timestamping => .err "validateTimestampingExtendedKeyUsage" 0 []
  | .ekuNotCritical => .err "validateTimestampingExtendedKeyUsage" 1 []
  | .empty => .err (chainFn p) 0 []
  | .notSelfSigned1 => .err (chainFn p) 1 [primErr]
  | .notSelfIssued1 => .err (chainFn p) 2 []
  | .rootSigErr => .err (chainFn p) 4 [primErr]
  | .rootNotSelfSigned => .err (chainFn p) 5 []
  | .selfSignedLeaf => .err (chainFn p) 6 []
  | .selfSignedIntermediate => .err (chainFn p) 7 []
  | .issuedByErr => .err (chainFn p) 8 [primErr]
  | .notIssuedBy => .err (chainFn p) 9 []

/-- a model result as the Go `error` value -/
def errV (p : Purpose) : R → Val
  | .ok _ => .nil
  | .error e => site p e

/-! ### field access on a certificate value (so that `certV` stays folded in the proofs) -/
section fields
variable (c : Cert) (exts : List (Int × Bool))
@[simp] theorem f_id : field (certV c exts) "id" = some (.int c.id) := by simp [field, certV, fget]
@[simp] theorem f_rawSubject : field (certV c exts) "RawSubject" = some (.int c.subject) := by simp [field, certV, fget]
@[simp] theorem f_rawIssuer : field (certV c exts) "RawIssuer" = some (.int c.issuer) := by simp [field, certV, fget]
@[simp] theorem f_subject : field (certV c exts) "Subject" = some (.opaque 0) := by simp [field, certV, fget]
@[simp] theorem f_issuer : field (certV c exts) "Issuer" = some (.opaque 1) := by simp [field, certV, fget]
@[simp] theorem f_notBefore : field (certV c exts) "NotBefore" = some (.int c.notBefore) := by simp [field, certV, fget]
@[simp] theorem f_notAfter : field (certV c exts) "NotAfter" = some (.int c.notAfter) := by simp [field, certV, fget]
@[simp] theorem f_bc : field (certV c exts) "BasicConstraintsValid" = some (.bool c.bcValid) := by simp [field, certV, fget]
@[simp] theorem f_isCA : field (certV c exts) "IsCA" = some (.bool c.isCA) := by simp [field, certV, fget]
@[simp] theorem f_mpl : field (certV c exts) "MaxPathLen" = some (.int c.maxPathLen) := by simp [field, certV, fget]
@[simp] theorem f_mplz : field (certV c exts) "MaxPathLenZero" = some (.bool c.maxPathLenZero) := by simp [field, certV, fget]
@[simp] theorem f_ku : field (certV c exts) "KeyUsage" = some (.int c.ku) := by simp [field, certV, fget]
@[simp] theorem f_exts : field (certV c exts) "Extensions" = some (.list (exts.map extV)) := by simp [field, certV, fget]
@[simp] theorem f_eku : field (certV c exts) "ExtKeyUsage" = some (.list (c.eku.map (fun e => .int (Int.ofNat e)))) := by simp [field, certV, fget]
@[simp] theorem f_ueku : field (certV c exts) "UnknownExtKeyUsage" = some (.list (List.replicate c.unknownEku (.opaque 2))) := by simp [field, certV, fget]
@[simp] theorem f_sa : field (certV c exts) "SignatureAlgorithm" = some (.opaque 3) := by simp [field, certV, fget]
@[simp] theorem f_tbs : field (certV c exts) "RawTBSCertificate" = some (.opaque 4) := by simp [field, certV, fget]
@[simp] theorem f_sg : field (certV c exts) "Signature" = some (.opaque 5) := by simp [field, certV, fget]
@[simp] theorem f_ksok : field (certV c exts) "keySpecOK" = some (.bool (extractKeySpec c.key).isSome) := by simp [field, certV, fget]
@[simp] theorem f_version : field (certV c exts) "Version" = some (.int (if c.v3 then 3 else 1)) := by simp [field, certV, fget]
end fields


/-- one comparison of every pair of names, by the kernel; the lookups by name below then cost none -/
theorem names_nodup : (funcs.map (·.name)).Nodup := by decide +kernel

/-- a call of `f` starts its body on the arguments (`n + 1` says: calls may nest `n` deeper) -/
theorem call_eq (sig : Sig) (sigSelf : SigSelf) (f : Func) (n : Nat) (args : List Val)
    (hf : f ∈ funcs := by simp only [funcs, List.mem_cons, true_or, or_true]) :
    call[sig, sigSelf] (n + 1) f.name args = match sbindAll [[]] true f.params args with
      | none => none
      | some s => (execBlock ⟨f.name, prims sig sigSelf, call[sig, sigSelf] n⟩ s f.body).value :=
  sem_find n args (find?_name_of_mem names_nodup hf)

/-! ### the primitives on certificate values -/
section primlemmas
variable (sig : Sig) (sigSelf : SigSelf) (c p : Cert) (e e' : List (Int × Bool))
@[simp] theorem idOf_certV : idOf (certV c e) = c.id := by simp [idOf]
@[simp] theorem prim_oidKU : prims sig sigSelf "oid.KeyUsage" [] = some (.int 15) := rfl
@[simp] theorem prim_oidEKU : prims sig sigSelf "oid.ExtKeyUsage" [] = some (.int 37) := rfl
@[simp] theorem prim_checkSignature (a b d : Val) :
    prims sig sigSelf "CheckSignature" [certV c e, a, b, d] = some (if sigSelf c.id then .nil else primErr) := by
  simp [prims]
@[simp] theorem prim_checkSignatureFrom :
    prims sig sigSelf "CheckSignatureFrom" [certV c e, certV p e'] = some (if checkSignatureFrom sig c p then .nil else primErr) := by
  cases hv : p.v3 <;> simp [prims, natOf, boolOf, checkSignatureFrom, hv]
@[simp] theorem prim_extractKeySpec :
    prims sig sigSelf "algorithm.ExtractKeySpec" [certV c e]
      = some (if (extractKeySpec c.key).isSome then .tuple [.opaque 6, .nil] else .tuple [.opaque 6, primErr]) := by
  simp [prims, boolOf]
end primlemmas

/-! ### `cert.KeyUsage & bit` -/
theorem band_bit (ku k : Nat) : (ku &&& 2^k = 0) ↔ hasBit ku (2^k) = false := by
  unfold hasBit
  have hk : (ku / 2^k % 2 == 1) = ku.testBit k := by
    rw [Nat.testBit_eq_decide_div_mod_eq]; by_cases h : ku / 2^k % 2 = 1 <;> simp [h]
  rw [hk]
  constructor
  · intro h
    have := congrArg (fun x => x.testBit k) h
    simpa [Nat.testBit_and, Nat.testBit_two_pow_self] using this
  · intro h
    apply Nat.eq_of_testBit_eq
    intro i
    by_cases hi : k = i
    · subst hi; simp [h]
    · simp [hi]

/-- `cert.KeyUsage & x509.KeyUsageCertSign` -/
theorem band_certSign (ku : Nat) : ku &&& 32 = 0 ↔ hasBit ku 32 = false := band_bit ku 5

/-- the interpreter's defining equations, unfolded at a hypothesis (`go_run` is the form that runs on symbolic Booleans) -/
macro "go_eval_at" h:ident "[" ts:Lean.Parser.Tactic.simpLemma,* "]" : tactic =>
  `(tactic| simp [run, pack, execBlock, exec, eval, evalArgs, sbindAll, sbind, sdefine, sassign, fset, sget, fget,
      spop, binop, builtin, Int.natCast_inj, $ts,*] at $h:ident)

/-! ### error values: `nil` exactly on `.ok`, never a tuple -/
theorem site_ne_nil (p : Purpose) (e : Err) : site p e ≠ .nil := by
  cases e <;> cases p <;> simp [site]
@[simp high] theorem valEq_site_nil (p : Purpose) (e : Err) : valEq (site p e) .nil = some false := by
  cases e <;> cases p <;> rfl
@[simp] theorem flatten_site (p : Purpose) (e : Err) : flatten [site p e] = [site p e] := by
  cases e <;> cases p <;> rfl
@[simp] theorem errV_ok (p : Purpose) (u : Unit) : errV p (.ok u) = .nil := rfl
@[simp] theorem errV_error (p : Purpose) (e : Err) : errV p (.error e) = site p e := rfl
@[simp] theorem flatten_errV (p : Purpose) (r : R) : flatten [errV p r] = [errV p r] := by
  cases r with
  | ok u => rfl
  | error e => exact flatten_site p e
/-- `err != nil` on the value of a model result -/
@[simp] theorem valEq_errV_nil (p : Purpose) (r : R) : valEq (errV p r) .nil = some (accepted r) := by
  cases r <;> simp [accepted]
/-- `if err := f(…); err != nil { return err }; …` is the model's `do f …; …` -/
theorem errV_bind (p : Purpose) (r : R) (k : Unit → R) :
    errV p (r >>= k) = if accepted r = false then errV p r else errV p (k ()) := by
  cases r <;> rfl

section
variable (sig : Sig) (sigSelf : SigSelf)

theorem validateSigningTime_eq (p : Purpose) (n : Nat) (c : Cert) (exts) (st : Option Int) :
    call[sig, sigSelf] (n + 1) "validateSigningTime" [certV c exts, optT st]
      = some (errV p (validateSigningTime c st)) := by
  refine (call_eq sig sigSelf x509_validateSigningTime _ _).trans ?_
  cases st <;> go_run [x509_validateSigningTime, optT, validateSigningTime, apply_ite (errV p), apply_ite some, site]

theorem validateCABasicConstraints_eq (p : Purpose) (n : Nat) (c : Cert) (exts) (k : Nat) :
    call[sig, sigSelf] (n + 1) "validateCABasicConstraints" [certV c exts, .int k]
      = some (errV p (validateCABasicConstraints c k)) := by
  refine (call_eq sig sigSelf x509_validateCABasicConstraints _ _).trans ?_
  go_run [x509_validateCABasicConstraints, validateCABasicConstraints, apply_ite (errV p), apply_ite some, site]

theorem validateLeafBasicConstraints_eq (p : Purpose) (n : Nat) (c : Cert) (exts) :
    call[sig, sigSelf] (n + 1) "validateLeafBasicConstraints" [certV c exts]
      = some (errV p (validateLeafBasicConstraints c)) := by
  refine (call_eq sig sigSelf x509_validateLeafBasicConstraints _ _).trans ?_
  go_run [x509_validateLeafBasicConstraints, validateLeafBasicConstraints, apply_ite (errV p), apply_ite some, site]

theorem validateSignatureAlgorithm_eq (p : Purpose) (n : Nat) (c : Cert) (exts) :
    call[sig, sigSelf] (n + 1) "validateSignatureAlgorithm" [certV c exts]
      = some (errV p (validateSignatureAlgorithm c)) := by
  refine (call_eq sig sigSelf x509_validateSignatureAlgorithm _ _).trans ?_
  cases h : extractKeySpec c.key <;>
    go_run [x509_validateSignatureAlgorithm, validateSignatureAlgorithm, site, h, primErr]

/-- `(bool, error)` as the model's `Except Unit Bool` -/
def issuedV : Except Unit Bool → Val
  | .error _ => .tuple [.bool false, primErr]
  | .ok b => .tuple [.bool b, .nil]

/-- the pair component by component, so that a run can go on without a case split -/
theorem issuedV_isIssuedBy (c p : Cert) :
    issuedV (isIssuedBy sig c p)
      = .tuple [.bool (checkSignatureFrom sig c p && p.subject == c.issuer),
                if checkSignatureFrom sig c p then .nil else primErr] := by
  unfold isIssuedBy; cases checkSignatureFrom sig c p <;> rfl

theorem isIssuedBy_eq (n : Nat) (c p : Cert) (e e') :
    call[sig, sigSelf] (n + 1) "isIssuedBy" [certV c e, certV p e'] = some (issuedV (isIssuedBy sig c p)) := by
  refine (call_eq sig sigSelf x509_isIssuedBy _ _).trans ?_
  go_run [x509_isIssuedBy, issuedV_isIssuedBy, primErr, Bool.beq_eq_decide_eq]
  cases checkSignatureFrom sig c p <;> rfl

theorem isSelfSigned_eq (n : Nat) (c : Cert) (e) :
    call[sig, sigSelf] (n + 2) "isSelfSigned" [certV c e] = some (issuedV (isIssuedBy sig c c)) := by
  refine (call_eq sig sigSelf x509_isSelfSigned _ _).trans ?_
  go_run [x509_isSelfSigned, isIssuedBy_eq, prims_none, primNames]
  -- left: `return isIssuedBy(cert, cert)` takes the pair apart and returns its two components
  cases isIssuedBy sig c c <;> rfl

theorem hasSelfSignature_eq (n : Nat) (c : Cert) (e) :
    call[sig, sigSelf] (n + 1) "hasSelfSignature" [certV c e] = some (.bool (selfSignedDirect sigSelf c)) := by
  refine (call_eq sig sigSelf x509_hasSelfSignature _ _).trans ?_
  go_run [x509_hasSelfSignature, selfSignedDirect, primErr, Bool.beq_eq_decide_eq]
  exact Bool.and_comm ..

/-! ### `for _, ext := range cert.Extensions` -/

def rangeBody : Stmt → List Stmt
  | .range _ _ _ b => b
  | _ => []

-- the `for` is the second statement of the function (`getD 1`); likewise wherever a loop body is taken out of a tree
def csKuBody : List Stmt := rangeBody (x509_validateCodeSigningKeyUsagePresent.body.getD 1 (.opaque ""))

theorem csKuLoop (fn : String) (cal) (cv : Val) : ∀ (exts : List (Int × Bool)) (i : Nat),
    rangeLoop (fun st => execBlock ⟨fn, prims sig sigSelf, cal⟩ st csKuBody) "_" "v2" i (exts.map extV)
        [[("v1", .bool false), ("v0", cv)]]
      = match findExt oidKeyUsage exts with
        | none => .next [[("v1", .bool false), ("v0", cv)]]
        | some true => .next [[("v1", .bool true), ("v0", cv)]]
        | some false => .ret [.err fn 0 []] := by
  simp only [csKuBody, rangeBody, x509_validateCodeSigningKeyUsagePresent, List.getD_cons_succ, List.getD_cons_zero]
  show ∀ (exts : List (Int × Bool)) i, loop _ _ "_" "v2" i (exts.map extV) _ = _
  intro exts
  induction exts with
  | nil => intro i; rfl
  | cons e r ih =>
    intro i
    go_run [extV, field, ih, findExt, oidKeyUsage]
    by_cases h : e.1 = 15 <;> simp only [h, if_true, if_false]
    cases e.2 <;> rfl

theorem validateCodeSigningKeyUsagePresent_eq (n : Nat) (c : Cert) (exts) :
    call[sig, sigSelf] (n + 1) "validateCodeSigningKeyUsagePresent" [certV c exts]
      = some (errV .codeSigning (csKeyUsagePresent { c with kuExt := findExt oidKeyUsage exts })) := by
  refine (call_eq sig sigSelf x509_validateCodeSigningKeyUsagePresent _ _).trans ?_
  have key : loop _ _ "_" "v2" 0 _ _ = _ :=
    csKuLoop sig sigSelf "validateCodeSigningKeyUsagePresent" (call[sig, sigSelf] n) (certV c exts) exts 0
  simp only [csKuBody, rangeBody, x509_validateCodeSigningKeyUsagePresent, List.getD_cons_succ, List.getD_cons_zero] at key
  rcases h : findExt oidKeyUsage exts with _ | _ | _ <;> rw [h] at key <;>
    go_run [x509_validateCodeSigningKeyUsagePresent, key, csKeyUsagePresent, site]

theorem validateCodeSigningCAKeyUsage_eq (n : Nat) (c : Cert) (exts) :
    call[sig, sigSelf] (n + 2) "validateCodeSigningCAKeyUsage" [certV c exts]
      = some (errV .codeSigning (do csKeyUsagePresent { c with kuExt := findExt oidKeyUsage exts }; caCertSign .codeSigning c)) := by
  refine (call_eq sig sigSelf x509_validateCodeSigningCAKeyUsage _ _).trans ?_
  go_run [x509_validateCodeSigningCAKeyUsage, validateCodeSigningKeyUsagePresent_eq, prims_none, primNames, errV_bind, apply_ite some,
    band_certSign, caCertSign, Generated.caRequiredKu, apply_ite (errV _), site]

/-- the model's certificate record agrees with the extension list the code walks -/
def ExtsAgree (c : Cert) (exts : List (Int × Bool)) : Prop :=
  c.kuExt = findExt oidKeyUsage exts ∧ c.ekuExt = findExt oidExtKeyUsage exts

theorem withKu_eq (c : Cert) (exts) (h : ExtsAgree c exts) : { c with kuExt := findExt oidKeyUsage exts } = c := by
  cases c; simp [ExtsAgree] at h ⊢; exact h.1.symm

theorem validateCodeSigningCACertificate_eq (n : Nat) (c : Cert) (exts) (h : ExtsAgree c exts) (k : Nat) :
    call[sig, sigSelf] (n + 3) "validateCodeSigningCACertificate" [certV c exts, .int k]
      = some (errV .codeSigning (caChecks .codeSigning c k)) := by
  refine (call_eq sig sigSelf x509_validateCodeSigningCACertificate _ _).trans ?_
  have h1 : call[sig, sigSelf] (n + 2) "validateCABasicConstraints" [certV c exts, .int k] = _ :=
    validateCABasicConstraints_eq sig sigSelf .codeSigning (n + 1) c exts k
  have h2 := validateCodeSigningCAKeyUsage_eq sig sigSelf n c exts
  rw [withKu_eq c exts h] at h2
  go_run [x509_validateCodeSigningCACertificate, h1, h2, prims_none, primNames]
  simp only [caChecks, keyUsagePresent, errV_bind, apply_ite some]

end
end NotationCore.Tie.Code.X509
