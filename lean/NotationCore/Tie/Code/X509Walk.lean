import NotationCore.Tie.Code.X509Chain
/-!
  Tie by translation, the chain walk: one pass through the body of
  `for i, cert := range certChain` in `ValidateCodeSigningCertChain` means one step of the model's
  `loopFrom` (`validateSigningTime`, `linkCheck`, `posCheck`), the whole loop means `loopFrom`,
  and the function means `Chain.validate .codeSigning` — for every chain length.
-/
namespace NotationCore.Tie.Code.X509
open GoSem Chain Generated.Ast

def csWalkBody : List Stmt := rangeBody (x509_ValidateCodeSigningCertChain.body.getD 2 (.opaque ""))

/-- the store of `ValidateCodeSigningCertChain` when the loop is entered -/
def walkStore (L : List Val) (st : Option Int) : Store := [[("v1", optT st), ("v0", .list L)]]

section
variable (sig : Sig) (sigSelf : SigSelf)

/-- what one iteration of the model does -/
def iter (i : Nat) (c : Cert) (rest : List Cert) (st : Option Int) : R := do
  validateSigningTime c st
  linkCheck sig sigSelf i c rest
  posCheck .codeSigning i c

/-- the store inside one pass of the loop -/
def passStore (L : List Val) (st : Option Int) (i : Nat) (cv : Val) : Store := [("v7", cv), ("v6", .int i)] :: walkStore L st

/-! The body of the loop is three statements, and each means one check of `iter`: run under the store of the pass, it returns the
    check's error or goes on with the store unchanged (`stepFlow`). -/

theorem csPass_signingTime (n : Nat) (L : List Val) (st : Option Int) (i : Nat) (c : Cert) (ce) :
    exec ⟨"ValidateCodeSigningCertChain", prims sig sigSelf, call[sig, sigSelf] (n + 3)⟩ (passStore L st i (certV c ce))
        (csWalkBody.getD 0 (.opaque ""))
      = stepFlow .codeSigning (passStore L st i (certV c ce)) (validateSigningTime c st) := by
  have hST : call[sig, sigSelf] (n + 3) "validateSigningTime" [certV c ce, optT st] = _ :=
    validateSigningTime_eq sig sigSelf .codeSigning (n + 2) c ce st
  simp only [csWalkBody, rangeBody, x509_ValidateCodeSigningCertChain, List.getD_cons_succ, List.getD_cons_zero, walkStore, passStore]
  go_run [hST, prims_none, primNames, stepFlow_eq]

/-- `if i == len(certChain)-1 { selfSigned … } else { … isIssuedBy(cert, certChain[i+1]) … }`.  The model side is first written as
    the chain of tests the code makes (`linkCheck_root` / `linkCheck_cons` pushed through `stepFlow`), then the statement is run; what
    is left are two chains of `if`s over the same conditions, which differ in how they spell the error under a condition that
    decides it. -/
theorem csPass_link (n : Nat) (L : List Val) (st : Option Int) (i : Nat) (c : CertX) (r : List CertX)
    (hlen : (L.length : Int) = i + 1 + r.length)
    (hidx : ∀ p' r', r = p' :: r' → L[i + 1]? = some (cvp p')) :
    exec ⟨"ValidateCodeSigningCertChain", prims sig sigSelf, call[sig, sigSelf] (n + 3)⟩ (passStore L st i (cvp c))
        (csWalkBody.getD 1 (.opaque ""))
      = stepFlow .codeSigning (passStore L st i (cvp c)) (linkCheck sig sigSelf i c.1 (r.map (·.1))) := by
  obtain ⟨c, ce⟩ := c
  have hSS : call[sig, sigSelf] (n + 3) "isSelfSigned" [certV c ce] = _ := isSelfSigned_eq sig sigSelf (n + 1) c ce
  have hHS : call[sig, sigSelf] (n + 3) "hasSelfSignature" [certV c ce] = _ := hasSelfSignature_eq sig sigSelf (n + 2) c ce
  simp only [csWalkBody, rangeBody, x509_ValidateCodeSigningCertChain, List.getD_cons_succ, List.getD_cons_zero, walkStore, passStore, cvp]
  cases r with
  | nil =>
    have hr : (L.length : Int) = i + 1 := by simpa using hlen
    simp only [List.map_nil, linkCheck_root, stepFlow_ite, stepFlow_error]
    go_run [hSS, hr, issuedV_isIssuedBy, primErr, prims_none, primNames]
    simp +contextual [site, chainFn, primErr, stepFlow]
  | cons p' r' =>
    obtain ⟨pc, pe⟩ := p'
    have hix : L[i + 1]? = some (certV pc pe) := hidx (pc, pe) r' rfl
    have hIB : call[sig, sigSelf] (n + 3) "isIssuedBy" [certV c ce, certV pc pe] = _ :=
      isIssuedBy_eq sig sigSelf (n + 2) c pc ce pe
    -- not the root position, and `certChain[i+1]` is in range
    have hne : ¬ ((i : Int) = (L.length : Int) - 1) := by simp at hlen; omega
    have hk : ¬ ((i : Int) + 1 < 0) ∧ ((i : Int) + 1).toNat = i + 1 := by omega
    simp only [List.map_cons, linkCheck_cons, stepFlow_ite, stepFlow_error]
    go_run [hHS, hIB, hne, hk, hix, issuedV_isIssuedBy, primErr, prims_none, primNames]
    simp +contextual [site, chainFn, primErr, stepFlow]

/-- `if i == 0 { validateCodeSigningLeafCertificate } else { validateCodeSigningCACertificate }` -/
theorem csPass_pos (n : Nat) (L : List Val) (st : Option Int) (i : Nat) (c : Cert) (ce) (hc : ExtsAgree c ce) :
    exec ⟨"ValidateCodeSigningCertChain", prims sig sigSelf, call[sig, sigSelf] (n + 3)⟩ (passStore L st i (certV c ce))
        (csWalkBody.getD 2 (.opaque ""))
      = stepFlow .codeSigning (passStore L st i (certV c ce)) (posCheck .codeSigning i c) := by
  have hLeaf := validateCodeSigningLeafCertificate_eq sig sigSelf n c ce hc
  have hCA := validateCodeSigningCACertificate_eq sig sigSelf n c ce hc
  simp only [csWalkBody, rangeBody, x509_ValidateCodeSigningCertChain, List.getD_cons_succ, List.getD_cons_zero, walkStore, passStore]
  cases i with
  | zero => go_run [hLeaf, prims_none, primNames, posCheck, stepFlow_eq]
  | succ i' =>
    have hi : ¬ ((i' : Int) + 1 = 0) := by omega
    go_run [hCA, hi, prims_none, primNames, posCheck, stepFlow_eq]

theorem csWalkStep (n : Nat) (L : List Val) (st : Option Int) (i : Nat) (c : CertX) (r : List CertX)
    (hc : ExtsAgree c.1 c.2)
    (hlen : (L.length : Int) = i + 1 + r.length)
    (hidx : ∀ p' r', r = p' :: r' → L[i + 1]? = some (cvp p')) :
    (fun s => execBlock ⟨"ValidateCodeSigningCertChain", prims sig sigSelf, sem (prims sig sigSelf) funcs (n + 3)⟩ s csWalkBody)
        ([("v7", cvp c), ("v6", .int i)] :: walkStore L st)
      = match iter sig sigSelf i c.1 (r.map (·.1)) st with
        | .ok _ => .next ([("v7", cvp c), ("v6", .int i)] :: walkStore L st)
        | .error e => .ret [site .codeSigning e] := by
  show execBlock _ (passStore L st i (cvp c)) _ = stepFlow .codeSigning _ (iter sig sigSelf i c.1 _ st)
  have h0 := csPass_signingTime sig sigSelf n L st i c.1 c.2
  have h1 := csPass_link sig sigSelf n L st i c r hlen hidx
  have h2 := csPass_pos sig sigSelf n L st i c.1 c.2 hc
  have hb : csWalkBody = [csWalkBody.getD 0 (.opaque ""), csWalkBody.getD 1 (.opaque ""), csWalkBody.getD 2 (.opaque "")] := rfl
  rw [hb]
  simp only [cvp] at h1 ⊢
  simp only [execBlock_cons, execBlock_nil, h0, h1, h2, stepFlow_seq, iter, stepFlow_bind]
  simp only [stepFlow_eq, passStore]

theorem loopFrom_cons_iter (st : Option Int) (i : Nat) (c : Cert) (rest : List Cert) :
    loopFrom .codeSigning sig sigSelf st i (c :: rest)
      = iter sig sigSelf i c rest st >>= fun _ => loopFrom .codeSigning sig sigSelf st (i + 1) rest := by
  simp only [loopFrom, iter, bind_assoc]

theorem csWalkLoop (n : Nat) (L : List Val) (st : Option Int) : ∀ (rest : List CertX) (pre : List Val),
    L = pre ++ rest.map cvp → (∀ x ∈ rest, ExtsAgree x.1 x.2) →
    rangeLoop (fun s => execBlock ⟨"ValidateCodeSigningCertChain", prims sig sigSelf, sem (prims sig sigSelf) funcs (n + 3)⟩ s csWalkBody)
        "v6" "v7" pre.length (rest.map cvp) (walkStore L st)
      = match loopFrom .codeSigning sig sigSelf st pre.length (rest.map (·.1)) with
        | .ok _ => .next (walkStore L st)
        | .error e => .ret [site .codeSigning e] := by
  show ∀ (rest : List CertX) pre, _ → _ → loop _ csWalkBody "v6" "v7" _ _ _ = stepFlow .codeSigning _ _
  intro rest
  induction rest with
  | nil => intro pre _ _; rfl
  | cons c r ih =>
    intro pre hL hag
    have step : execBlock _ _ csWalkBody = stepFlow .codeSigning _ _ :=
      csWalkStep sig sigSelf n L st pre.length c r (hag c (by simp))
        (by rw [hL]; simp; omega) (by intro p' r' hr; rw [hL, hr]; simp)
    have ih' := ih (pre ++ [cvp c]) (by rw [hL]; simp) (fun x hx => hag x (by simp [hx]))
    simp only [List.length_append, List.length_cons, List.length_nil, Nat.zero_add] at ih'
    go_run [step, loopFrom_cons_iter, stepFlow_bind]
    cases iter sig sigSelf pre.length c.1 (r.map (·.1)) st <;> simp [stepFlow, accepted, spop, ih']

/-- The Go `error` value `ValidateCodeSigningCertChain` returns, written along the model's own
    computation: errors of the leaf checks of a single self-signed certificate arrive wrapped
    (`fmt.Errorf("invalid self-signed certificate. Error: %w", err)`), everything else as created. -/
def chainV (chain : List Cert) (st : Option Int) : Val :=
  match chain with
  | [] => site .codeSigning .empty
  | [c] =>
    if !sigSelf c.id then site .codeSigning .notSelfSigned1
    else if c.subject != c.issuer then site .codeSigning .notSelfIssued1
    else match validateSigningTime c st with
      | .error e => site .codeSigning e
      | .ok _ => match leafChecks .codeSigning c with
        | .error e => .err "ValidateCodeSigningCertChain" 3 [site .codeSigning e]
        | .ok _ => .nil
  | _ => errV .codeSigning (loopFrom .codeSigning sig sigSelf st 0 chain)

theorem chainV_nil_iff (chain : List Cert) (st : Option Int) :
    chainV sig sigSelf chain st = .nil ↔ validate .codeSigning sig sigSelf chain st = .ok () := by
  unfold chainV validate
  match chain with
  | [] => simp [site_ne_nil]
  | [c] =>
    cases h1 : sigSelf c.id
    · simp [h1, site_ne_nil]
    · by_cases h2 : c.subject = c.issuer
      · cases h3 : validateSigningTime c st
        · simp [h1, h2, h3, site_ne_nil, bind, Except.bind]
        · cases h4 : leafChecks .codeSigning c <;> simp [h1, h2, h3, h4, bind, Except.bind]
      · simp [h1, h2, site_ne_nil]
  | c1 :: c2 :: r =>
    cases loopFrom .codeSigning sig sigSelf st 0 (c1 :: c2 :: r) <;> simp [errV, site_ne_nil]

/-- **`ValidateCodeSigningCertChain`, as regenerated from the source, is the model's `validate`.** -/
theorem ValidateCodeSigningCertChain_eq (n : Nat) (chain : List CertX) (hag : ∀ x ∈ chain, ExtsAgree x.1 x.2)
    (st : Option Int) :
    call[sig, sigSelf] (n + 4) "ValidateCodeSigningCertChain" [.list (chain.map cvp), optT st]
      = some (chainV sig sigSelf (chain.map (·.1)) st) := by
  refine (call_eq sig sigSelf x509_ValidateCodeSigningCertChain _ _).trans ?_
  match chain, hag with
  | [], _ => go_run [x509_ValidateCodeSigningCertChain, chainV, site, chainFn]
  | [c], hag =>
    obtain ⟨c, ce⟩ := c
    have hST : call[sig, sigSelf] (n + 3) "validateSigningTime" [certV c ce, optT st] = _ :=
      validateSigningTime_eq sig sigSelf .codeSigning (n + 2) c ce st
    have hLeaf := validateCodeSigningLeafCertificate_eq sig sigSelf n c ce (hag (c, ce) (by simp))
    go_run [x509_ValidateCodeSigningCertChain, cvp, hST, hLeaf, primErr, prims_none, primNames]
    cases h1 : validateSigningTime c st <;> cases h2 : leafChecks .codeSigning c <;>
      simp +contextual [chainV, accepted, h1, h2, apply_ite some] <;> rfl
  | c1 :: c2 :: r, hag =>
    have key : loop _ _ "v6" "v7" 0 _ _ = stepFlow .codeSigning _ _ :=
      csWalkLoop sig sigSelf n (List.map cvp (c1 :: c2 :: r)) st (c1 :: c2 :: r) [] (by simp) hag
    simp only [csWalkBody, rangeBody, x509_ValidateCodeSigningCertChain, List.getD_cons_succ, List.getD_cons_zero,
      walkStore, List.map_cons] at key
    have hl : ¬ ((r.length : Int) + 1 + 1 < 1) ∧ ¬ ((r.length : Int) + 1 + 1 = 1) := by omega
    go_run [x509_ValidateCodeSigningCertChain, key, hl, stepFlow_eq, chainV]
    generalize loopFrom .codeSigning sig sigSelf st 0 _ = X
    cases X <;> simp [accepted]

theorem ValidateCodeSigningCertChain_accepts_iff (n : Nat) (chain : List CertX)
    (hag : ∀ x ∈ chain, ExtsAgree x.1 x.2) (st : Option Int) :
    call[sig, sigSelf] (n + 4) "ValidateCodeSigningCertChain" [.list (chain.map cvp), optT st] = some .nil
      ↔ validate .codeSigning sig sigSelf (chain.map (·.1)) st = .ok () := by
  rw [ValidateCodeSigningCertChain_eq sig sigSelf n chain hag st]
  simp [chainV_nil_iff]

end
end NotationCore.Tie.Code.X509
