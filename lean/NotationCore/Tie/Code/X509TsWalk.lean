import NotationCore.Tie.Code.X509Ts
/-!
  Tie by translation, the timestamping chain walk: the same three steps as for code signing
  (`X509Walk.lean`) for `ValidateTimestampingCertChain`, which takes no signing time: one pass of
  the loop body is one step of `loopFrom … none`, the loop is `loopFrom`, the function is
  `Chain.validate .timestamping … none` = `Chain.validateTimestamping` — for every chain length.
-/
namespace NotationCore.Tie.Code.X509
open GoSem Chain Generated.Ast

def tsWalkBody : List Stmt := rangeBody (x509_ValidateTimestampingCertChain.body.getD 2 (.opaque ""))

/-- the store of `ValidateTimestampingCertChain` when the loop is entered -/
def tsStore (L : List Val) : Store := [[("v0", .list L)]]

section
variable (sig : Sig) (sigSelf : SigSelf)

/-- what one iteration of the model does (no signing time: `validateSigningTime c none` is `ok`) -/
def tsIter (i : Nat) (c : Cert) (rest : List Cert) : R := do
  linkCheck sig sigSelf i c rest
  posCheck .timestamping i c

/-- the store inside one pass of the loop -/
def tsPassStore (L : List Val) (i : Nat) (cv : Val) : Store := [("v5", cv), ("v4", .int i)] :: tsStore L

/-- the root / non-root statement, as `csPass_link` -/
theorem tsPass_link (n : Nat) (L : List Val) (i : Nat) (c : CertX) (r : List CertX)
    (hlen : (L.length : Int) = i + 1 + r.length)
    (hidx : ∀ p' r', r = p' :: r' → L[i + 1]? = some (cvp p')) :
    exec ⟨"ValidateTimestampingCertChain", prims sig sigSelf, call[sig, sigSelf] (n + 3)⟩ (tsPassStore L i (cvp c))
        (tsWalkBody.getD 0 (.opaque ""))
      = stepFlow .timestamping (tsPassStore L i (cvp c)) (linkCheck sig sigSelf i c.1 (r.map (·.1))) := by
  obtain ⟨c, ce⟩ := c
  have hSS : call[sig, sigSelf] (n + 3) "isSelfSigned" [certV c ce] = _ := isSelfSigned_eq sig sigSelf (n + 1) c ce
  have hHS : call[sig, sigSelf] (n + 3) "hasSelfSignature" [certV c ce] = _ := hasSelfSignature_eq sig sigSelf (n + 2) c ce
  simp only [tsWalkBody, rangeBody, x509_ValidateTimestampingCertChain, List.getD_cons_succ, List.getD_cons_zero, tsStore, tsPassStore, cvp]
  cases r with
  | nil =>
    have hr : (L.length : Int) = i + 1 := by simpa using hlen
    simp only [List.map_nil, linkCheck_root, stepFlow_ite, stepFlow_error]
    go_run [hSS, hr, issuedV_isIssuedBy, primErr, prims_none, primNames]
    simp +contextual [site, chainFn, primErr, stepFlow]
  | cons p' r' =>
    obtain ⟨pc, pe⟩ := p'
    have hix : L[i + 1]? = some (certV pc pe) := hidx (pc, pe) r' rfl
    have hIB : call[sig, sigSelf] (n + 3) "isIssuedBy" [certV c ce, certV pc pe] = _ :=
      isIssuedBy_eq sig sigSelf (n + 2) c pc ce pe
    have hne : ¬ ((i : Int) = (L.length : Int) - 1) := by simp at hlen; omega
    have hk : ¬ ((i : Int) + 1 < 0) ∧ ((i : Int) + 1).toNat = i + 1 := by omega
    simp only [List.map_cons, linkCheck_cons, stepFlow_ite, stepFlow_error]
    go_run [hHS, hIB, hne, hk, hix, issuedV_isIssuedBy, primErr, prims_none, primNames]
    simp +contextual [site, chainFn, primErr, stepFlow]

/-- the leaf / CA statement -/
theorem tsPass_pos (n : Nat) (L : List Val) (i : Nat) (c : Cert) (ce) (hc : ExtsAgree c ce) :
    exec ⟨"ValidateTimestampingCertChain", prims sig sigSelf, call[sig, sigSelf] (n + 3)⟩ (tsPassStore L i (certV c ce))
        (tsWalkBody.getD 1 (.opaque ""))
      = stepFlow .timestamping (tsPassStore L i (certV c ce)) (posCheck .timestamping i c) := by
  have hLeaf := validateTimestampingLeafCertificate_eq sig sigSelf n c ce hc
  have hCA := validateTimestampingCACertificate_eq sig sigSelf n c ce hc
  simp only [tsWalkBody, rangeBody, x509_ValidateTimestampingCertChain, List.getD_cons_succ, List.getD_cons_zero, tsStore, tsPassStore]
  cases i with
  | zero => go_run [hLeaf, prims_none, primNames, posCheck, stepFlow_eq]
  | succ i' =>
    have hi : ¬ ((i' : Int) + 1 = 0) := by omega
    go_run [hCA, hi, prims_none, primNames, posCheck, stepFlow_eq]

theorem tsWalkStep (n : Nat) (L : List Val) (i : Nat) (c : CertX) (r : List CertX)
    (hc : ExtsAgree c.1 c.2)
    (hlen : (L.length : Int) = i + 1 + r.length)
    (hidx : ∀ p' r', r = p' :: r' → L[i + 1]? = some (cvp p')) :
    (fun s => execBlock ⟨"ValidateTimestampingCertChain", prims sig sigSelf, sem (prims sig sigSelf) funcs (n + 3)⟩ s tsWalkBody)
        ([("v5", cvp c), ("v4", .int i)] :: tsStore L)
      = match tsIter sig sigSelf i c.1 (r.map (·.1)) with
        | .ok _ => .next ([("v5", cvp c), ("v4", .int i)] :: tsStore L)
        | .error e => .ret [site .timestamping e] := by
  show execBlock _ (tsPassStore L i (cvp c)) _ = stepFlow .timestamping _ (tsIter sig sigSelf i c.1 _)
  have h1 := tsPass_link sig sigSelf n L i c r hlen hidx
  have h2 := tsPass_pos sig sigSelf n L i c.1 c.2 hc
  have hb : tsWalkBody = [tsWalkBody.getD 0 (.opaque ""), tsWalkBody.getD 1 (.opaque "")] := rfl
  rw [hb]
  simp only [cvp] at h1 ⊢
  simp only [execBlock_cons, execBlock_nil, h1, h2, stepFlow_seq, tsIter, stepFlow_bind]
  simp only [stepFlow_eq, tsPassStore]

theorem loopFrom_cons_tsIter (i : Nat) (c : Cert) (rest : List Cert) :
    loopFrom .timestamping sig sigSelf none i (c :: rest)
      = tsIter sig sigSelf i c rest >>= fun _ => loopFrom .timestamping sig sigSelf none (i + 1) rest := by
  simp only [loopFrom, tsIter, validateSigningTime, bind_assoc]
  rfl

theorem tsWalkLoop (n : Nat) (L : List Val) : ∀ (rest : List CertX) (pre : List Val),
    L = pre ++ rest.map cvp → (∀ x ∈ rest, ExtsAgree x.1 x.2) →
    rangeLoop (fun s => execBlock ⟨"ValidateTimestampingCertChain", prims sig sigSelf, sem (prims sig sigSelf) funcs (n + 3)⟩ s tsWalkBody)
        "v4" "v5" pre.length (rest.map cvp) (tsStore L)
      = match loopFrom .timestamping sig sigSelf none pre.length (rest.map (·.1)) with
        | .ok _ => .next (tsStore L)
        | .error e => .ret [site .timestamping e] := by
  show ∀ (rest : List CertX) pre, _ → _ → loop _ tsWalkBody "v4" "v5" _ _ _ = stepFlow .timestamping _ _
  intro rest
  induction rest with
  | nil => intro pre _ _; rfl
  | cons c r ih =>
    intro pre hL hag
    have step : execBlock _ _ tsWalkBody = stepFlow .timestamping _ _ :=
      tsWalkStep sig sigSelf n L pre.length c r (hag c (by simp))
        (by rw [hL]; simp; omega) (by intro p' r' hr; rw [hL, hr]; simp)
    have ih' := ih (pre ++ [cvp c]) (by rw [hL]; simp) (fun x hx => hag x (by simp [hx]))
    simp only [List.length_append, List.length_cons, List.length_nil, Nat.zero_add] at ih'
    go_run [step, loopFrom_cons_tsIter, stepFlow_bind]
    cases tsIter sig sigSelf pre.length c.1 (r.map (·.1)) <;> simp [stepFlow, accepted, spop, ih']

/-- The Go `error` value `ValidateTimestampingCertChain` returns, written along the model's own
    computation (errors of the leaf checks of a single self-signed certificate arrive wrapped). -/
def tsChainV (chain : List Cert) : Val :=
  match chain with
  | [] => site .timestamping .empty
  | [c] =>
    if !sigSelf c.id then site .timestamping .notSelfSigned1
    else if c.subject != c.issuer then site .timestamping .notSelfIssued1
    else match leafChecks .timestamping c with
      | .error e => .err "ValidateTimestampingCertChain" 3 [site .timestamping e]
      | .ok _ => .nil
  | _ => errV .timestamping (loopFrom .timestamping sig sigSelf none 0 chain)

theorem tsChainV_nil_iff (chain : List Cert) :
    tsChainV sig sigSelf chain = .nil ↔ validateTimestamping sig sigSelf chain = .ok () := by
  unfold tsChainV validateTimestamping validate
  match chain with
  | [] => simp [site_ne_nil]
  | [c] =>
    cases h1 : sigSelf c.id
    · simp [h1, site_ne_nil]
    · by_cases h2 : c.subject = c.issuer
      · cases h4 : leafChecks .timestamping c <;> simp [h1, h2, h4, validateSigningTime, bind, Except.bind]
      · simp [h1, h2, site_ne_nil]
  | c1 :: c2 :: r =>
    cases loopFrom .timestamping sig sigSelf none 0 (c1 :: c2 :: r) <;> simp [errV, site_ne_nil]

/-- **`ValidateTimestampingCertChain`, as regenerated from the source, is the model's `validateTimestamping`.** -/
theorem ValidateTimestampingCertChain_eq (n : Nat) (chain : List CertX) (hag : ∀ x ∈ chain, ExtsAgree x.1 x.2) :
    call[sig, sigSelf] (n + 4) "ValidateTimestampingCertChain" [.list (chain.map cvp)]
      = some (tsChainV sig sigSelf (chain.map (·.1))) := by
  refine (call_eq sig sigSelf x509_ValidateTimestampingCertChain _ _).trans ?_
  match chain, hag with
  | [], _ => go_run [x509_ValidateTimestampingCertChain, tsChainV, site, chainFn]
  | [c], hag =>
    obtain ⟨c, ce⟩ := c
    have hLeaf := validateTimestampingLeafCertificate_eq sig sigSelf n c ce (hag (c, ce) (by simp))
    go_run [x509_ValidateTimestampingCertChain, cvp, hLeaf, primErr, prims_none, primNames]
    cases h2 : leafChecks .timestamping c <;> simp +contextual [tsChainV, accepted, h2, apply_ite some] <;> rfl
  | c1 :: c2 :: r, hag =>
    have key : loop _ _ "v4" "v5" 0 _ _ = stepFlow .timestamping _ _ :=
      tsWalkLoop sig sigSelf n (List.map cvp (c1 :: c2 :: r)) (c1 :: c2 :: r) [] (by simp) hag
    simp only [tsWalkBody, rangeBody, x509_ValidateTimestampingCertChain, List.getD_cons_succ, List.getD_cons_zero,
      tsStore, List.map_cons] at key
    have hl : ¬ ((r.length : Int) + 1 + 1 < 1) ∧ ¬ ((r.length : Int) + 1 + 1 = 1) := by omega
    go_run [x509_ValidateTimestampingCertChain, key, hl, stepFlow_eq, tsChainV]
    generalize loopFrom .timestamping sig sigSelf none 0 _ = X
    cases X <;> simp [accepted]

theorem ValidateTimestampingCertChain_accepts_iff (n : Nat) (chain : List CertX)
    (hag : ∀ x ∈ chain, ExtsAgree x.1 x.2) :
    call[sig, sigSelf] (n + 4) "ValidateTimestampingCertChain" [.list (chain.map cvp)] = some .nil
      ↔ validateTimestamping sig sigSelf (chain.map (·.1)) = .ok () := by
  rw [ValidateTimestampingCertChain_eq sig sigSelf n chain hag]
  simp [tsChainV_nil_iff]

end
end NotationCore.Tie.Code.X509
