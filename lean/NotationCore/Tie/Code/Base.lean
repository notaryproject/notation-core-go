import NotationCore.GoSem.Exec
import NotationCore.Generated.Ast.Base
import NotationCore.Model.Base
/-!
  Tie by translation, `signature/internal/base/envelope.go`: the regenerated syntax trees of
  `validateSigningAndExpiryTime` and `validateSigningSchema` mean what `Model/Base.lean` says — for
  every pair of instants (zero values, equal instants, expiry one nanosecond either side) and
  every scheme string.
-/
namespace NotationCore.Tie.Code.Base
open GoSem Generated.Ast

def noPrims : Prims := fun _ _ => none

def funcs : List Func := [base_validateSigningAndExpiryTime, base_validateSigningSchema]

section
variable {prims : Prims} {fs : List Func}

/-- Only builtins are called: the primitives and the rest of the function table do not matter
    (`BaseContent` has its own).  One `.err` with the ordinal computed inside, so that a caller's
    `err != nil` turns on the one Boolean. -/
theorem validateSigningAndExpiryTime_sem
    (h : fs.find? (fun f => f.name == "validateSigningAndExpiryTime") = some base_validateSigningAndExpiryTime)
    (n : Nat) (st ex : Int) :
    sem prims fs (n + 1) "validateSigningAndExpiryTime" [.int st, .int ex]
      = some (if Base.validateSigningAndExpiryTime st ex then .nil
              else .err "validateSigningAndExpiryTime" (if isZeroT st then 0 else 1) []) := by
  rw [sem_find _ _ h]
  go_run [base_validateSigningAndExpiryTime]
  -- the two conditions as the code tests them
  by_cases h1 : st = -62135596800000000000 <;> by_cases h2 : ¬ex = -62135596800000000000 ∧ (ex < st ∨ ex = st) <;>
    simp [Base.validateSigningAndExpiryTime, isZeroT, zeroT, h1, h2] <;> omega

theorem validateSigningSchema_sem
    (h : fs.find? (fun f => f.name == "validateSigningSchema") = some base_validateSigningSchema) (n : Nat) (s : String) :
    sem prims fs (n + 1) "validateSigningSchema" [.str s]
      = some (if s = "" then .err "validateSigningSchema" 0 [] else .nil) := by
  rw [sem_find _ _ h]
  go_run [base_validateSigningSchema, ← apply_ite some]

end

/-- accepted ↔ the Go function returns a nil error; which of the two errors is fixed too -/
theorem validateSigningAndExpiryTime_eq (n : Nat) (st ex : Int) :
    sem noPrims funcs (n + 1) "validateSigningAndExpiryTime" [.int st, .int ex]
      = some (if Base.validateSigningAndExpiryTime st ex then .nil
              else if isZeroT st then .err "validateSigningAndExpiryTime" 0 []
              else .err "validateSigningAndExpiryTime" 1 []) := by
  rw [validateSigningAndExpiryTime_sem rfl, apply_ite (Val.err _ · _)]

theorem validateSigningSchema_eq (n : Nat) (s : String) :
    sem noPrims funcs (n + 1) "validateSigningSchema" [.str s]
      = some (if s = "" then .err "validateSigningSchema" 0 [] else .nil) :=
  validateSigningSchema_sem rfl n s

end NotationCore.Tie.Code.Base
