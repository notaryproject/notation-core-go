import NotationCore.Tie.Code.X509
/-!
  Tie by translation, continued: `validateLeafKeyUsage` (seven conditional appends and a length
  test) means the model's two `any`s over the regenerated bit lists; the compositions
  (`validateCodeSigningLeafKeyUsage`, `validateCodeSigningLeafCertificate`); the nested loops of
  `validateCodeSigningExtendedKeyUsage`; and what the two chain walks (`X509Walk`, `X509TsWalk`) share:
  the model's `linkCheck` as the chain of tests the code makes, and `stepFlow`, the flow of a loop
  body on a model result.
-/
namespace NotationCore.Tie.Code.X509
open GoSem Chain Generated.Ast

section
variable (sig : Sig) (sigSelf : SigSelf)

/-- `if cert.KeyUsage&bit != 0 { invalidUsages = append(invalidUsages, name) }`, as one step: the
    generic rule for `if` would fork the rest of the function at each of the seven. -/
@[local simp ↓ high] theorem exec_appendIfBit (env : Env) (cv : Val) (ku : Nat) (hk : field cv "KeyUsage" = some (.int ku))
    (l : List Val) (bit : Int) (name : String) :
    exec env [[("v1", .list l), ("v0", cv)]]
        (.ifs [] (.bin .ne (.bin .band (.sel (.ident "v0") "KeyUsage") (.int bit)) (.int 0))
          [.assign false ["v1"] [.call "append" [.ident "v1", .str name]]] [])
      = .next [[("v1", .list (l ++ if ku &&& bit.toNat = 0 then [] else [.str name])), ("v0", cv)]] := by
  go_run [hk]
  split <;> simp

/-- `if len(invalidUsages) > 0 { … }`, as emptiness: `simp` would turn the length of the seven
    conditional appends into a sum first. -/
@[local simp ↓ high] theorem exec_ifNonempty (env : Env) (cv : Val) (l : List Val) (t : List Stmt) :
    exec env [[("v1", .list l), ("v0", cv)]] (.ifs [] (.bin .gt (.call "len" [.ident "v1"]) (.int 0)) t [])
      = if l = [] then .next [[("v1", .list l), ("v0", cv)]]
        else (execBlock env [[], [], [("v1", .list l), ("v0", cv)]] t).leave := by
  cases l <;> go_run []

theorem validateLeafKeyUsage_eq (p : Purpose) (n : Nat) (c : Cert) (exts) :
    call[sig, sigSelf] (n + 1) "validateLeafKeyUsage" [certV c exts] = some (errV p (validateLeafKeyUsage c)) := by
  refine (call_eq sig sigSelf x509_validateLeafKeyUsage _ _).trans ?_
  have hb (bit k : Nat) (h : bit = 2 ^ k) : c.ku &&& bit = 0 ↔ hasBit c.ku bit = false := h ▸ band_bit c.ku k
  -- `simp` writes `ku &&& 1` as `ku % 2`
  have h1 : (c.ku : Int) % 2 = 0 ↔ hasBit c.ku 1 = false := by simp [hasBit]; omega
  go_run [x509_validateLeafKeyUsage, validateLeafKeyUsage, Generated.leafRequiredKu, Generated.leafForbiddenKu, h1,
    hb 4 2 rfl, hb 8 3 rfl, hb 16 4 rfl, hb 32 5 rfl, hb 64 6 rfl, hb 128 7 rfl, hb 256 8 rfl, apply_ite (errV p), site]
  -- left: "none of the seven bits" on one side, "not one of them" on the other
  split
  · rfl
  · split <;> simp_all

theorem validateCodeSigningLeafKeyUsage_eq (n : Nat) (c : Cert) (exts) (h : ExtsAgree c exts) :
    call[sig, sigSelf] (n + 2) "validateCodeSigningLeafKeyUsage" [certV c exts]
      = some (errV .codeSigning (do csKeyUsagePresent c; validateLeafKeyUsage c)) := by
  refine (call_eq sig sigSelf x509_validateCodeSigningLeafKeyUsage _ _).trans ?_
  have h1 := validateCodeSigningKeyUsagePresent_eq sig sigSelf n c exts
  rw [withKu_eq c exts h] at h1
  go_run [x509_validateCodeSigningLeafKeyUsage, h1, validateLeafKeyUsage_eq sig sigSelf .codeSigning n c exts, prims_none, primNames]
  simp only [errV_bind, apply_ite some]

/-! ### `for _, certEku := range cert.ExtKeyUsage { for _, excludedEku := range excludedEkus { … } }` -/

def ekuBody : List Stmt := rangeBody (x509_validateCodeSigningExtendedKeyUsage.body.getD 2 (.opaque ""))

def ekuStore (cv : Val) : Store :=
  [[("v1", .list [.int 1, .int 2, .int 4, .int 8, .int 9]), ("v0", cv)]]

/-- the literal `excludedEkus` of the source -/
def isExcl (x : Nat) : Bool := [1, 2, 4, 8, 9].contains x

theorem ekuStep (fn : String) (cal) (cv : Val) (x : Nat) :
    (fun st => execBlock ⟨fn, prims sig sigSelf, cal⟩ st ekuBody) ([("v2", .int (Int.ofNat x))] :: ekuStore cv)
      = if isExcl x then .ret [.err fn 0 []] else .next ([("v2", .int (Int.ofNat x))] :: ekuStore cv) := by
  go_run [ekuBody, rangeBody, x509_validateCodeSigningExtendedKeyUsage, ekuStore, isExcl]
  norm_cast
  by_cases h : x = 1 ∨ x = 2 ∨ x = 4 ∨ x = 8 ∨ x = 9
  · rcases h with rfl | rfl | rfl | rfl | rfl <;> rfl
  · simp only [not_or] at h
    simp [h]

theorem ekuLoop (fn : String) (cal) (cv : Val) : ∀ (ekus : List Nat) (i : Nat),
    rangeLoop (fun st => execBlock ⟨fn, prims sig sigSelf, cal⟩ st ekuBody) "_" "v2" i
        (ekus.map (fun e => .int (Int.ofNat e))) (ekuStore cv)
      = if ekus.any isExcl then .ret [.err fn 0 []] else .next (ekuStore cv) := by
  show ∀ (ekus : List Nat) i, loop _ ekuBody "_" "v2" i (ekus.map fun e => .int (e : Nat)) _ = _
  intro ekus
  induction ekus with
  | nil => intro i; rfl
  | cons x r ih =>
    intro i
    have step : execBlock _ ([("v2", .int ↑x)] :: _) ekuBody = _ := ekuStep sig sigSelf fn cal cv x
    go_run [step, ih]
    cases isExcl x <;> simp

theorem isExcl_eq : isExcl = fun e => Generated.excludedEkus.contains e := rfl

theorem validateCodeSigningExtendedKeyUsage_eq (n : Nat) (c : Cert) (exts) :
    call[sig, sigSelf] (n + 1) "validateCodeSigningExtendedKeyUsage" [certV c exts]
      = some (errV .codeSigning (csExtendedKeyUsage c)) := by
  refine (call_eq sig sigSelf x509_validateCodeSigningExtendedKeyUsage _ _).trans ?_
  have key : loop _ _ "_" "v2" 0 _ _ = _ :=
    ekuLoop sig sigSelf "validateCodeSigningExtendedKeyUsage" (call[sig, sigSelf] n) (certV c exts) c.eku 0
  simp only [ekuBody, rangeBody, x509_validateCodeSigningExtendedKeyUsage, List.getD_cons_succ, List.getD_cons_zero, ekuStore,
    Int.ofNat_eq_natCast] at key
  unfold csExtendedKeyUsage
  rw [← isExcl_eq]
  go_run [x509_validateCodeSigningExtendedKeyUsage, key, apply_ite (errV _), apply_ite some, site]
  -- left: the code returns early on an empty `ExtKeyUsage`, the model runs its `all` over the empty list
  rintro h _ hx
  simp [h] at hx

theorem validateCodeSigningLeafCertificate_eq (n : Nat) (c : Cert) (exts) (h : ExtsAgree c exts) :
    call[sig, sigSelf] (n + 3) "validateCodeSigningLeafCertificate" [certV c exts]
      = some (errV .codeSigning (leafChecks .codeSigning c)) := by
  refine (call_eq sig sigSelf x509_validateCodeSigningLeafCertificate _ _).trans ?_
  have h1 : call[sig, sigSelf] (n + 2) "validateLeafBasicConstraints" [certV c exts] = _ :=
    validateLeafBasicConstraints_eq sig sigSelf .codeSigning (n + 1) c exts
  have h2 := validateCodeSigningLeafKeyUsage_eq sig sigSelf n c exts h
  have h3 : call[sig, sigSelf] (n + 2) "validateCodeSigningExtendedKeyUsage" [certV c exts] = _ :=
    validateCodeSigningExtendedKeyUsage_eq sig sigSelf (n + 1) c exts
  have h4 : call[sig, sigSelf] (n + 2) "validateSignatureAlgorithm" [certV c exts] = _ :=
    validateSignatureAlgorithm_eq sig sigSelf .codeSigning (n + 1) c exts
  go_run [x509_validateCodeSigningLeafCertificate, h1, h2, h3, h4, prims_none, primNames]
  simp only [leafChecks, keyUsagePresent, extendedKeyUsage, errV_bind, apply_ite some]
  -- left: the code tests the two key-usage checks as one error (`validateCodeSigningLeafKeyUsage`), the model's `do` one after the other
  cases csKeyUsagePresent c <;> rfl

/-- a certificate of the chain with the extension list the code walks -/
abbrev CertX := Cert × List (Int × Bool)
def cvp (x : CertX) : Val := certV x.1 x.2

@[simp] theorem flatten_certV (c : Cert) (e : List (Int × Bool)) : flatten [certV c e] = [certV c e] := rfl

/-- `linkCheck` at the root, as the chain of tests the code makes -/
theorem linkCheck_root (i : Nat) (c : Cert) :
    linkCheck sig sigSelf i c []
      = if checkSignatureFrom sig c c = false then .error .rootSigErr
        else if (c.subject == c.issuer) = false then .error .rootNotSelfSigned
        else .ok () := by
  cases h1 : checkSignatureFrom sig c c <;> cases h2 : c.subject == c.issuer <;> simp [linkCheck, isIssuedBy, h1, h2]

/-- `linkCheck` below the root -/
theorem linkCheck_cons (i : Nat) (c parent : Cert) (rest : List Cert) :
    linkCheck sig sigSelf i c (parent :: rest)
      = if selfSignedDirect sigSelf c then (if i = 0 then .error .selfSignedLeaf else .error .selfSignedIntermediate)
        else if checkSignatureFrom sig c parent = false then .error .issuedByErr
        else if (parent.subject == c.issuer) = false then .error .notIssuedBy
        else .ok () := by
  cases h1 : selfSignedDirect sigSelf c <;> cases h2 : checkSignatureFrom sig c parent <;>
    cases h3 : parent.subject == c.issuer <;> simp [linkCheck, isIssuedBy, h1, h2, h3]

/-- how the body of the walk leaves on a model result: on with the store, or out with the error -/
def stepFlow (p : Purpose) (S : Store) : R → Flow
  | .ok _ => .next S
  | .error e => .ret [site p e]

section stepFlow
variable (p : Purpose) (S : Store) (r r' : R) (k : Unit → R) (b : Prop) [Decidable b]
theorem stepFlow_bind : stepFlow p S (r >>= k) = if accepted r = false then .ret [errV p r] else stepFlow p S (k ()) := by
  cases r <;> rfl
theorem stepFlow_ite : stepFlow p S (if b then r else r') = if b then stepFlow p S r else stepFlow p S r' :=
  apply_ite ..
theorem stepFlow_error (e : Err) : stepFlow p S (.error e) = .ret [site p e] := rfl
theorem stepFlow_eq : stepFlow p S r = if accepted r = false then .ret [errV p r] else .next S := by
  cases r <;> rfl
/-- a statement that means one check, followed by the rest of the block -/
theorem stepFlow_seq (env : Env) (rest : List Stmt) :
    (stepFlow p S r).seq env rest = if accepted r = false then .ret [errV p r] else execBlock env S rest := by
  cases r <;> rfl
end stepFlow

end
end NotationCore.Tie.Code.X509
