import NotationCore.GoSem.Exec
import NotationCore.Generated.Ast.Crl
import NotationCore.Model.Crl
/-!
  Tie by translation, `revocation/internal/crl/crl.go`: the regenerated syntax tree of
  `validateCRL` — issuer's signature, next update present and not passed (the wall clock is a
  primitive, so the boundary `now == NextUpdate` is covered), and the loop over the list's
  extensions that refuses a critical one other than issuingDistributionPoint / deltaCRLIndicator —
  means `Crl.validateCRL`, for every list, every extension list and every reading of the clock.
  After it `Supported` (a certificate with at least one distribution point).
-/
namespace NotationCore.Tie.Code.Crl
open GoSem Generated.Ast

/-! issuingDistributionPoint and deltaCRLIndicator: the last arcs of 2.5.29.28 and 2.5.29.27 -/
def oidIDP : Int := 28
def oidDCI : Int := 27

def extV (e : Int × Bool) : Val := .obj [("Id", .int e.1), ("Critical", .bool e.2)]

/-- some extension other than the two known ones is critical -/
def critUnknown : List (Int × Bool) → Bool
  | [] => false
  | e :: r => (e.1 != oidIDP && e.1 != oidDCI && e.2) || critUnknown r

/-- `*x509.RevocationList` as `validateCRL` reads it; `sigOK` carries what
    `CheckSignatureFrom(issuer)` answers -/
def crlV (sigOK : Bool) (nextUpdate : Int) (exts : List (Int × Bool)) : Val :=
  .obj [("sigOK", .bool sigOK), ("NextUpdate", .int nextUpdate), ("Extensions", .list (exts.map extV))]

def primErr : Val := .err "·prim" 0 []

def prims (now : Int) : Prims := fun name args =>
  match name, args with
  | "time.Now", [] => some (.int now)
  | "oidIssuingDistributionPoint", [] => some (.int oidIDP)
  | "oidDeltaCRLIndicator", [] => some (.int oidDCI)
  | "CheckSignatureFrom", [l, _] => (match field l "sigOK" with
      | some (.bool true) => some .nil
      | some (.bool false) => some primErr
      | _ => none)
  | _, _ => none

def funcs : List Func := [crl_validateCRL]

def rangeBody : Stmt → List Stmt
  | .range _ _ _ b => b
  | _ => []
def extBody : List Stmt := rangeBody (crl_validateCRL.body.getD 4 (.opaque ""))

/-- the store when the extension loop is entered: the clock reading, the issuer, the list -/
def store0 (lv iv : Val) (now : Int) : Store := [[("v3", .int now), ("v1", iv), ("v0", lv)]]

section prims
variable (now : Int) (sigOK : Bool) (nu : Int) (exts : List (Int × Bool)) (iv : Val)
theorem prim_now : prims now "time.Now" [] = some (.int now) := by simp only [prims]
theorem prim_checkSignatureFrom :
    prims now "CheckSignatureFrom" [crlV sigOK nu exts, iv] = some (if sigOK then .nil else primErr) := by
  cases sigOK <;> simp [prims, crlV, field, fget]
theorem f_nextUpdate : field (crlV sigOK nu exts) "NextUpdate" = some (.int nu) := by simp [field, crlV, fget]
theorem f_extensions : field (crlV sigOK nu exts) "Extensions" = some (.list (exts.map extV)) := by simp [field, crlV, fget]
end prims

theorem find_validateCRL : funcs.find? (fun f => f.name == "validateCRL") = some crl_validateCRL := by
  simp [funcs, crl_validateCRL]

theorem extLoop (fn : String) (cal) (now : Int) (lv iv : Val) : ∀ (exts : List (Int × Bool)) (i : Nat),
    rangeLoop (fun st => execBlock ⟨fn, prims now, cal⟩ st extBody) "_" "v4" i (exts.map extV) (store0 lv iv now)
      = if critUnknown exts then .ret [.err fn 3 []] else .next (store0 lv iv now) := by
  simp only [extBody, rangeBody, crl_validateCRL, List.getD_cons_succ, List.getD_cons_zero, store0]
  show ∀ (exts : List (Int × Bool)) i, loop _ _ "_" "v4" i (exts.map extV) _ = _
  intro exts
  induction exts with
  | nil => intro i; rfl
  | cons e r ih =>
    intro i
    go_run [extV, field, prims, ih, critUnknown]
    by_cases h1 : e.1 = oidIDP <;> by_cases h2 : e.1 = oidDCI <;> cases e.2 <;> simp [h1, h2]

/-- the `error` `validateCRL(crl, issuer)` returns: the first of its four checks that fails, or nil -/
theorem validateCRL_eq (now : Int) (n : Nat) (sigOK : Bool) (nu : Int) (exts : List (Int × Bool)) (iv : Val) :
    sem (prims now) funcs (n + 1) "validateCRL" [crlV sigOK nu exts, iv]
      = some (if !sigOK then .err "validateCRL" 0 [primErr]
              else if isZeroT nu then .err "validateCRL" 1 []
              else if now > nu then .err "validateCRL" 2 []
              else if critUnknown exts then .err "validateCRL" 3 []
              else .nil) := by
  rw [sem_find _ _ find_validateCRL]
  have key : loop _ _ "_" "v4" 0 _ _ = _ :=
    extLoop "validateCRL" (sem (prims now) funcs n) now (crlV sigOK nu exts) iv exts 0
  simp only [extBody, rangeBody, crl_validateCRL, List.getD_cons_succ, List.getD_cons_zero, store0] at key
  go_run [crl_validateCRL, key, prim_now, prim_checkSignatureFrom, f_nextUpdate, f_extensions, primErr, isZeroT]
  simp only [apply_ite some]
  cases sigOK <;> rfl

theorem validateCRL_accepts_iff (now : Int) (n : Nat) (l : Crl.CrlRec) (exts : List (Int × Bool)) (iv : Val)
    (hx : l.critUnknownExt = critUnknown exts) :
    sem (prims now) funcs (n + 1) "validateCRL" [crlV l.sigOK l.nextUpdate exts, iv] = some .nil
      ↔ Crl.validateCRL now l = true := by
  rw [validateCRL_eq, Crl.validateCRL, hx]
  simp [errOr_eq_nil, and_assoc]

/-! ### `Supported` (method selection, C11) -/

theorem find_Supported : [crl_Supported].find? (fun f => f.name == "Supported") = some crl_Supported := by
  simp [crl_Supported]

/-- `crl.Supported(cert)`: the certificate names at least one CRL distribution point — whatever
    the URLs look like (their scheme is the fetcher's business, not the method selection's) -/
theorem Supported_eq (now : Int) (n : Nat) (dps : List Val) :
    sem (prims now) [crl_Supported] (n + 1) "Supported" [.obj [("CRLDistributionPoints", .list dps)]]
      = some (.bool (!dps.isEmpty)) := by
  rw [sem_find _ _ find_Supported]
  go_run [crl_Supported, field]
  cases dps <;> simp

theorem Supported_nil (now : Int) (n : Nat) :
    sem (prims now) [crl_Supported] (n + 1) "Supported" [.nil] = some (.bool false) := by
  rw [sem_find _ _ find_Supported]
  go_run [crl_Supported, field]

end NotationCore.Tie.Code.Crl
