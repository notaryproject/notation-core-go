import NotationCore.GoSem.Exec
import NotationCore.Generated.Ast.Signature
import NotationCore.Model.Trust
/-!
  Tie by translation, `signature/signer.go`: the regenerated syntax tree of `VerifyAuthenticity`
  — two nested `range` loops with a `return` from the inner one — means the model's
  `Trust.verifyAuthenticity`: the returned certificate is the first entry of the trust list that
  `Equal`s the leaf-most matching certificate of the chain, for every chain and every trust list
  (look-alikes included: `x509.Certificate.Equal` is equality of `Raw`, the primitive here).
  After it `SignerInfo.AuthenticSigningTime` and `SignerInfo.ExtendedAttribute` of `signature/types.go`.
-/
namespace NotationCore.Tie.Code.Signature
open GoSem Trust Generated.Ast

/-- `*x509.Certificate`: its DER bytes and the look-alike metadata the code must not consult -/
def tcV (c : TCert) : Val := .obj [("Raw", .int c.raw), ("RawSubject", .int c.subject), ("PublicKey", .int c.key),
  ("SerialNumber", .int c.serial), ("RawIssuer", .int c.issuer)]

def rawOf (v : Val) : Int := match field v "Raw" with
  | some (.int i) => i
  | _ => 0

/-- crypto/x509: `(*Certificate).Equal` is `bytes.Equal(c.Raw, other.Raw)` -/
def prims : Prims := fun name args =>
  match name, args with
  | "Equal", [a, b] => some (.bool (decide (rawOf a = rawOf b)))
  | _, _ => none

@[simp] theorem rawOf_tcV (c : TCert) : rawOf (tcV c) = c.raw := by simp [rawOf, tcV, field, fget]
@[simp] theorem prim_equal (a b : TCert) : prims "Equal" [tcV a, tcV b] = some (.bool (decide (a.raw = b.raw))) := by
  simp [prims, Int.natCast_inj]
@[simp] theorem builtin_equal_tcV (a b : TCert) : builtin "Equal" [tcV a, tcV b] = none := rfl
@[simp] theorem flatten_tcV (c : TCert) : flatten [tcV c] = [tcV c] := rfl

/-- `*SignerInfo` -/
def siV : Option (List TCert) → Val
  | none => .nil
  | some cs => .obj [("CertificateChain", .list (cs.map tcV))]

def funcs : List Func := [signature_VerifyAuthenticity]

/-- the first trust-list entry equal to `c` -/
def firstEqual (c : TCert) (ts : List TCert) : Option TCert := ts.find? (fun t => t.raw == c.raw)
/-- leaf-most first: the first certificate of the chain with an equal trust-list entry decides -/
def firstTrusted (ts : List TCert) : List TCert → Option TCert
  | [] => none
  | c :: cs => match firstEqual c ts with
    | some t => some t
    | none => firstTrusted ts cs

def rangeBody : Stmt → List Stmt
  | .range _ _ _ b => b
  | _ => []
def outerBody : List Stmt := rangeBody (signature_VerifyAuthenticity.body.getD 2 (.opaque ""))
def innerBody : List Stmt := rangeBody (outerBody.getD 0 (.opaque ""))

def store0 (si : Val) (ts : List TCert) : Store := [[("v1", .list (ts.map tcV)), ("v0", si)]]

theorem find_VerifyAuthenticity : funcs.find? (fun f => f.name == "VerifyAuthenticity") = some signature_VerifyAuthenticity := by
  simp [funcs, signature_VerifyAuthenticity]

theorem find?_cons_ite {α} (p : α → Bool) (a : α) (l : List α) :
    (a :: l).find? p = if p a then some a else l.find? p := by
  rw [List.find?_cons]; cases p a <;> rfl

theorem innerLoop (fn : String) (cal) (si : Val) (ts0 : List TCert) (c : TCert) : ∀ (ts : List TCert) (i : Nat),
    rangeLoop (fun st => execBlock ⟨fn, prims, cal⟩ st innerBody) "_" "v3" i (ts.map tcV)
        ([("v2", tcV c)] :: store0 si ts0)
      = match firstEqual c ts with
        | some t => .ret [tcV t, .nil]
        | none => .next ([("v2", tcV c)] :: store0 si ts0) := by
  simp only [innerBody, outerBody, rangeBody, signature_VerifyAuthenticity, List.getD_cons_succ, List.getD_cons_zero]
  show ∀ (ts : List TCert) i, loop _ _ "_" "v3" i (ts.map tcV) _ = _
  intro ts
  induction ts with
  | nil => intro i; rfl
  | cons t r ih =>
    intro i
    go_run [ih, firstEqual, find?_cons_ite]
    by_cases h : t.raw = c.raw <;> simp only [h, if_true, if_false]

theorem outerLoop (fn : String) (cal) (si : Val) (ts : List TCert) : ∀ (cs : List TCert) (i : Nat),
    rangeLoop (fun st => execBlock ⟨fn, prims, cal⟩ st outerBody) "_" "v2" i (cs.map tcV) (store0 si ts)
      = match firstTrusted ts cs with
        | some t => .ret [tcV t, .nil]
        | none => .next (store0 si ts) := by
  simp only [outerBody, rangeBody, signature_VerifyAuthenticity, List.getD_cons_succ, List.getD_cons_zero, store0]
  show ∀ (cs : List TCert) i, loop _ _ "_" "v2" i (cs.map tcV) _ = _
  intro cs
  induction cs with
  | nil => intro i; rfl
  | cons c r ih =>
    intro i
    have inner : loop _ _ "_" "v3" 0 _ _ = _ := innerLoop fn cal si ts c ts 0
    simp only [innerBody, outerBody, rangeBody, signature_VerifyAuthenticity, List.getD_cons_succ, List.getD_cons_zero, store0] at inner
    cases h : firstEqual c ts <;> rw [h] at inner <;> go_run [inner, ih, firstTrusted, h]

/-- the value `VerifyAuthenticity` returns, in terms of `firstTrusted` -/
def resultV (chain : Option (List TCert)) (ts : List TCert) : Val :=
  if ts.isEmpty then .tuple [.nil, .err "VerifyAuthenticity" 0 []]
  else match chain with
    | none => .tuple [.nil, .err "VerifyAuthenticity" 1 []]
    | some cs => match firstTrusted ts cs with
      | some t => .tuple [tcV t, .nil]
      | none => .tuple [.nil, .err "VerifyAuthenticity" 2 []]

theorem VerifyAuthenticity_eq (n : Nat) (chain : Option (List TCert)) (ts : List TCert) :
    sem prims funcs (n + 1) "VerifyAuthenticity" [siV chain, .list (ts.map tcV)] = some (resultV chain ts) := by
  rw [sem_find _ _ find_VerifyAuthenticity]
  cases chain with
  | none => go_run [signature_VerifyAuthenticity, siV, resultV, apply_ite some]
  | some cs =>
    have key : loop _ _ "_" "v2" 0 _ _ = _ := outerLoop "VerifyAuthenticity" (sem prims funcs n) (siV (some cs)) ts cs 0
    simp only [outerBody, rangeBody, signature_VerifyAuthenticity, List.getD_cons_succ, List.getD_cons_zero, store0, siV] at key
    go_run [signature_VerifyAuthenticity, siV, field, key, resultV, apply_ite some]
    -- left: the flow of the loop (`key`) followed by the last `return`, which `rfl` runs in either case
    cases firstTrusted ts cs <;> rfl

/-! ### `firstTrusted` is what the model's index-returning loops compute -/

theorem findTrust_eq (c : TCert) : ∀ (ts : List TCert) (i : Nat),
    findTrust c ts i = (ts.findIdx? (fun t => t.raw == c.raw)).map (i + ·)
  | [], _ => rfl
  | t :: r, i => by
    rw [findTrust, findTrust_eq c r, List.findIdx?_cons]
    split <;> simp [Function.comp_def, Nat.add_assoc, Nat.add_comm 1]

theorem findTrust_spec (c : TCert) : ∀ (ts : List TCert) (i : Nat),
    match findTrust c ts i with
    | some k => ∃ j, k = i + j ∧ ts[j]? = firstEqual c ts ∧ (firstEqual c ts).isSome
    | none => firstEqual c ts = none := by
  intro ts i
  rw [findTrust_eq, firstEqual, List.find?_eq_bind_findIdx?_getElem?]
  cases h : ts.findIdx? _ with
  | none => rfl
  | some j => exact ⟨j, rfl, rfl, by simp [(List.findIdx?_eq_some_iff_findIdx_eq.mp h).1]⟩

theorem scanChain_spec (ts : List TCert) : ∀ (cs : List TCert),
    match scanChain ts cs with
    | some k => ts[k]? = firstTrusted ts cs ∧ (firstTrusted ts cs).isSome
    | none => firstTrusted ts cs = none := by
  intro cs
  induction cs with
  | nil => rfl
  | cons c r ih =>
    have hf := findTrust_spec c ts 0
    unfold scanChain firstTrusted
    cases h : findTrust c ts 0 with
    | none => rw [h] at hf; rw [hf]; exact ih
    | some k =>
      rw [h] at hf
      obtain ⟨j, rfl, hj, hs⟩ := hf
      obtain ⟨x, hx⟩ := Option.isSome_iff_exists.mp hs
      simp [hx, hj]

/-- **`VerifyAuthenticity`, as regenerated from the source, is the model's `verifyAuthenticity`**:
    where the model returns index `i` the code returns `trustedCerts[i]` and a nil error; where the
    model returns an error the code returns nil and the corresponding error. -/
theorem VerifyAuthenticity_model (n : Nat) (chain : Option (List TCert)) (ts : List TCert) :
    match verifyAuthenticity chain ts with
    | .ok i => ∃ t, ts[i]? = some t ∧
        sem prims funcs (n + 1) "VerifyAuthenticity" [siV chain, .list (ts.map tcV)] = some (.tuple [tcV t, .nil])
    | .error .invalidArgTrusted =>
        sem prims funcs (n + 1) "VerifyAuthenticity" [siV chain, .list (ts.map tcV)] = some (.tuple [.nil, .err "VerifyAuthenticity" 0 []])
    | .error .invalidArgSignerInfo =>
        sem prims funcs (n + 1) "VerifyAuthenticity" [siV chain, .list (ts.map tcV)] = some (.tuple [.nil, .err "VerifyAuthenticity" 1 []])
    | .error .authenticity =>
        sem prims funcs (n + 1) "VerifyAuthenticity" [siV chain, .list (ts.map tcV)] = some (.tuple [.nil, .err "VerifyAuthenticity" 2 []]) := by
  rw [VerifyAuthenticity_eq]
  unfold verifyAuthenticity resultV
  cases ts.isEmpty
  · cases chain with
    | none => rfl
    | some cs =>
      have hs := scanChain_spec ts cs
      cases h : scanChain ts cs with
      | none => rw [h] at hs; simp [h, hs]
      | some k =>
        rw [h] at hs
        obtain ⟨x, hx⟩ := Option.isSome_iff_exists.mp hs.2
        rw [hx] at hs
        simp [h, hx]
        exact ⟨x, hs.1, rfl⟩
  · rfl

/-! ### `SignerInfo.AuthenticSigningTime` and `SignerInfo.ExtendedAttribute` -/

def afuncs : List Func := [signature_SignerInfo_AuthenticSigningTime, signature_SignerInfo_ExtendedAttribute]

def noPrims : Prims := fun _ _ => none

def signerInfoV (scheme : String) (st : Int) (attrs : List Val) : Val :=
  .obj [("SignedAttributes", .obj [("SigningScheme", .str scheme), ("SigningTime", .int st), ("ExtendedAttributes", .list attrs)])]

theorem find_AuthenticSigningTime :
    afuncs.find? (fun f => f.name == "SignerInfo.AuthenticSigningTime") = some signature_SignerInfo_AuthenticSigningTime := by
  simp [afuncs, signature_SignerInfo_AuthenticSigningTime]
theorem find_ExtendedAttribute :
    afuncs.find? (fun f => f.name == "SignerInfo.ExtendedAttribute") = some signature_SignerInfo_ExtendedAttribute := by
  simp [afuncs, signature_SignerInfo_AuthenticSigningTime, signature_SignerInfo_ExtendedAttribute]

/-- an authentic signing time exists exactly under the signing-authority scheme with a non-zero
    signing time, and then it is that signing time — whatever else the signer info carries -/
theorem AuthenticSigningTime_eq (n : Nat) (scheme : String) (st : Int) (attrs : List Val) :
    sem noPrims afuncs (n + 1) "SignerInfo.AuthenticSigningTime" [signerInfoV scheme st attrs]
      = some (match Trust.authenticSigningTime (scheme == "notary.x509.signingAuthority") st with
          | some t => .tuple [.int t, .nil]
          | none => if scheme = "notary.x509.signingAuthority"
              then .tuple [.int (-62135596800000000000), .err "SignerInfo.AuthenticSigningTime" 0 []]
              else .tuple [.int (-62135596800000000000), .err "SignerInfo.AuthenticSigningTime" 1 []]) := by
  rw [sem_find _ _ find_AuthenticSigningTime]
  go_run [signature_SignerInfo_AuthenticSigningTime, signerInfoV, field, Trust.authenticSigningTime, isZeroT, zeroT]
  by_cases hs : scheme = "notary.x509.signingAuthority" <;> by_cases hz : st = -62135596800000000000 <;> simp [hs, hz]

/-- an attribute of the list -/
def attrV (key : String) (crit : Bool) (tok : Nat) : Val := .obj [("Key", .str key), ("Critical", .bool crit), ("Value", .opaque tok)]

theorem field_attrV_key (k : String) (c : Bool) (t : Nat) : field (attrV k c t) "Key" = some (.str k) := rfl

def attrBody : List Stmt := rangeBody (signature_SignerInfo_ExtendedAttribute.body.getD 0 (.opaque ""))

/-- the loop of `ExtendedAttribute(key)` over text-keyed attributes: it returns at the first entry with that key and falls
    through when there is none (the lookup clause of C13) -/
theorem attrLoop (fn : String) (cal) (S : Store) (k : String) : ∀ (as : List (String × Bool × Nat)) (i : Nat),
    S = [[("v1", .str k), ("v0", S0)]] →
    rangeLoop (fun st => execBlock ⟨fn, noPrims, cal⟩ st attrBody) "_" "v2" i (as.map (fun a => attrV a.1 a.2.1 a.2.2)) S
      = match as.find? (fun a => a.1 == k) with
        | some a => .ret [attrV a.1 a.2.1 a.2.2, .nil]
        | none => .next S := by
  simp only [attrBody, rangeBody, signature_SignerInfo_ExtendedAttribute, List.getD_cons_zero]
  show ∀ (as : List (String × Bool × Nat)) i, _ → loop _ _ "_" "v2" i (as.map _) _ = _
  intro as
  induction as with
  | nil => intro i _; rfl
  | cons a r ih =>
    intro i hS
    subst hS
    go_run [ih, field_attrV_key, find?_cons_ite]
    by_cases h : a.1 = k <;> simp only [h, if_true, if_false]

@[simp] theorem flatten_attrV (k : String) (c : Bool) (t : Nat) : flatten [attrV k c t] = [attrV k c t] := rfl

/-- `ExtendedAttribute(key)`: the first attribute of the list with that text key, or the
    zero `Attribute` and an error -/
theorem ExtendedAttribute_eq (n : Nat) (scheme : String) (st : Int) (as : List (String × Bool × Nat)) (k : String) :
    sem noPrims afuncs (n + 1) "SignerInfo.ExtendedAttribute"
        [signerInfoV scheme st (as.map (fun a => attrV a.1 a.2.1 a.2.2)), .str k]
      = some (match as.find? (fun a => a.1 == k) with
          | some a => .tuple [attrV a.1 a.2.1 a.2.2, .nil]
          | none => .tuple [.obj [], .err "SignerInfo.ExtendedAttribute" 0 []]) := by
  rw [sem_find _ _ find_ExtendedAttribute]
  have key : loop _ _ "_" "v2" 0 _ _ = _ := attrLoop (S0 := signerInfoV scheme st (as.map (fun a => attrV a.1 a.2.1 a.2.2)))
    "SignerInfo.ExtendedAttribute" (sem noPrims afuncs n) _ k as 0 rfl
  simp only [attrBody, rangeBody, signature_SignerInfo_ExtendedAttribute, List.getD_cons_zero, signerInfoV] at key
  go_run [signature_SignerInfo_ExtendedAttribute, signerInfoV, field, key]
  cases as.find? (fun a => a.1 == k) <;> rfl

end NotationCore.Tie.Code.Signature
