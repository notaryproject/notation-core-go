import NotationCore.Generated.Shape
namespace NotationCore.Tie
open NotationCore.Generated

/-- CRL fetcher `isEffective` — Model.Fetcher.isEffective -/
theorem fetcher_isEffective :
    Shape.fetcher_isEffective = ["!crl.NextUpdate.IsZero()", "!time.Now().After(crl.NextUpdate)"] := rfl

end NotationCore.Tie
