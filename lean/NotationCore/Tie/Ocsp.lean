import NotationCore.Generated.Shape
namespace NotationCore.Tie
open NotationCore.Generated

/-- OCSP `checkStatusFromServer` — Model.Ocsp.checkStatusFromServer -/
theorem ocsp_checkStatusFromServer :
    Shape.ocsp_checkStatusFromServer =
      ["time.Now().After(resp.NextUpdate)", "!opts.SigningTime.IsZero()", "opts.SigningTime.Before(invalidityDate)"] := rfl

end NotationCore.Tie
