import NotationCore.Generated.Shape
namespace NotationCore.Tie
open NotationCore.Generated

/-- CRL `validateCRL` — Model.Crl.validateCRL -/
theorem crl_validateCRL :
    Shape.crl_validateCRL =
      ["crl.NextUpdate.IsZero()", "now.After(crl.NextUpdate)", "ext.Id.Equal(oidIssuingDistributionPoint)",
       "ext.Id.Equal(oidDeltaCRLIndicator)"] := rfl

/-- CRL `validate`: delta number must be strictly greater, indicator must not exceed — Model.Crl.validate -/
theorem crl_validate :
    Shape.crl_validate =
      ["deltaCRL.Number.Cmp(baseCRL.Number) <= 0", "minimumBaseCRLNumber.Cmp(baseCRL.Number) > 0"] := rfl

/-- CRL `CertCheckStatus`: every failure inside the distribution-point loop `break`s (never
    `continue`s), a revocation `return`s — Model.Crl.loop -/
theorem crl_certCheckStatus_exits :
    Shape.crl_certCheckStatus_exits = ["break", "break", "break", "break", "return"] := rfl

/-- CRL `checkRevocation` — Model.Crl.checkRevocation -/
theorem crl_checkRevocation :
    Shape.crl_checkRevocation =
      ["revocationEntry.SerialNumber.Cmp(cert.SerialNumber) == 0", "!signingTime.IsZero()",
       "!extensions.invalidityDate.IsZero()", "signingTime.Before(extensions.invalidityDate)",
       "latestTempRevokedEntry.RevocationTime.Before(revocationEntry.RevocationTime)"] := rfl

end NotationCore.Tie
