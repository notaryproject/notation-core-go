import NotationCore.Generated.Shape
namespace NotationCore.Tie
open NotationCore.Generated

/-- base `validateSigningAndExpiryTime` — Model.Base.validateSigningAndExpiryTime -/
theorem base_validateSigningAndExpiryTime :
    Shape.base_validateSigningAndExpiryTime =
      ["signingTime.IsZero()", "!expireTime.IsZero()", "expireTime.Before(signingTime)", "expireTime.Equal(signingTime)"] := rfl

end NotationCore.Tie
