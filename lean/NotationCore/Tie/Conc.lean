import NotationCore.Generated.Shape
import NotationCore.Model.Conc
namespace NotationCore.Tie
open NotationCore.Generated

/-- `ValidateContext`: buffered panic channel of capacity len(chain), one goroutine per
    certificate with `defer wg.Done()` + recover-and-send, writing only its own slot, `wg.Wait()`
    after the loop — Model.Conc -/
theorem revocation_ValidateContext_conc :
    Shape.revocation_ValidateContext_conc =
      ["make-chan cap=len(certChain)", "wg.Add", "go {defer wg.Done; defer recover-and-send} writes{certResults[param]}",
       "wg.Add", "go {defer wg.Done; defer recover-and-send} writes{certResults[param]}", "wg.Wait"] := rfl

/-- `ocsp.CheckStatus` (after the F11 repair: same recover structure) — Model.Conc -/
theorem ocsp_CheckStatus_conc :
    Shape.ocsp_CheckStatus_conc =
      ["make-chan cap=len(opts.CertChain)", "wg.Add",
       "go {defer wg.Done; defer recover-and-send} writes{certResults[param]}", "wg.Wait"] := rfl

/-- `ValidateContext`, statement by statement: the panic channel has the capacity of the chain
    length and is closed by a deferred call; inside the loop over all certificates but the last,
    each `go` is directly preceded by `wg.Add(1)`, defers `wg.Done()` first and the
    recover-and-send second (so the send happens before `Done`), receives the loop index as an
    argument and writes only `certResults[i]`; a certificate without OCSP / CRL is stored by the
    main goroutine; then the last slot, `wg.Wait()`, the non-blocking receive that re-panics, the
    return of `certResults` — Model.Conc (`Conc.step`) -/
theorem revocation_ValidateContext_skel :
    Shape.revocation_ValidateContext_skel =
      ["chan panicChan cap=len(certChain)", "defer close(panicChan)", "loop over certChain[:len(certChain)-1]",
       "add1; go {defer wg.Done; defer recover-and-send} writes{certResults[param]} params(p0,p1) args(loopkey,loopval)",
       "add1; go {defer wg.Done; defer recover-and-send} writes{certResults[param]} params(p0,p1) args(loopkey,loopval)",
       "main-store certResults[loopkey]", "end-loop", "store certResults[len(certChain) - 1]", "wait",
       "select case{p := <-panicChan => panic(p);} default", "return certResults,nil"] := rfl

theorem ocsp_CheckStatus_skel :
    Shape.ocsp_CheckStatus_skel =
      ["chan panicChan cap=len(opts.CertChain)", "defer close(panicChan)", "loop over opts.CertChain[:len(opts.CertChain)-1]",
       "add1; go {defer wg.Done; defer recover-and-send} writes{certResults[param]} params(p0,p1) args(loopkey,loopval)",
       "end-loop", "store certResults[len(opts.CertChain) - 1]", "wait",
       "select case{p := <-panicChan => panic(p);} default", "return certResults,nil"] := rfl

/-- the reading of those two traces as a `Conc.Skel` -/
def validateContextSkel : Conc.Skel :=
  { chanCapIsChainLen := true, closeDeferred := true, forks := [Conc.goodFork, Conc.goodFork], waitAfterLoop := true, selectAfterWait := true }
def checkStatusSkel : Conc.Skel :=
  { chanCapIsChainLen := true, closeDeferred := true, forks := [Conc.goodFork], waitAfterLoop := true, selectAfterWait := true }

/-- both are the skeleton `Conc.step` is the semantics of -/
theorem skels_good : validateContextSkel.good = true ∧ checkStatusSkel.good = true := by decide

end NotationCore.Tie
