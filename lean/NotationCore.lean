import NotationCore.Props.C02Sign
import NotationCore.Props.C03Code
import NotationCore.Props.C08Cose
import NotationCore.Props.C09
import NotationCore.Props.C14Code
import NotationCore.Props.C15
import NotationCore.Props.C18
import NotationCore.Props.C19
import NotationCore.Props.C20
import NotationCore.Spec.Monitors
import NotationCore.Spec.EnvMonitorsPass
import NotationCore.Tie
import NotationCore.Tie.Code.BaseContent
import NotationCore.Tie.Code.Crl
import NotationCore.Tie.Code.FetcherFetch
import NotationCore.Tie.Code.Ocsp
import NotationCore.Tie.Code.Signature
import NotationCore.Generated.Ast.Algorithm
import NotationCore.Generated.Ast.Result
import NotationCore.Generated.Ast.Revocation
import NotationCore.Generated.Ast.Timestamp
/-! Every module of the development is below one of these, so `lake build` checks all of it. -/
